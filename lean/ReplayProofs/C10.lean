/-
C10 — every bundled version is internally consistent (the signature-binding rule).
-/
import ReplayModel.Bind
namespace ReplayModel.C10
open ReplayModel

/-- a plain signature: ordinary parameters only, no defaults -/
def plain (ps : List Param) : Prop := ∀ p ∈ ps, p.kind = .pk ∧ p.hasDefault = false

theorem filter_plain (ps : List Param) (h : plain ps) : ps.filter Param.positional = ps := by
  rw [List.filter_eq_self]
  intro p hp
  simp [Param.positional, (h p hp).1]

theorem no_var (ps : List Param) (h : plain ps) :
    ps.any (·.kind == .var) = false ∧ ps.any (·.kind == .varkw) = false := by
  constructor <;> (rw [List.any_eq_false]; intro p hp; simp [(h p hp).1])

theorem filled_plain (ps : List Param) (h : plain ps) (n : Nat) :
    filledNames ps n = (ps.take n).map (·.name) := by
  unfold filledNames; rw [filter_plain ps h]

theorem bindPos_plain (ps : List Param) (h : plain ps) (n : Nat) : bindPos ps n = true ↔ n ≤ ps.length := by
  unfold bindPos
  rw [filter_plain ps h, (no_var ps h).1]
  simp

theorem bindKw_plain (ps : List Param) (h : plain ps) (n : Nat) (ks : List String) :
    bindKw ps n ks = true ↔ ∀ k ∈ ks, k ∈ ps.map (·.name) ∧ k ∉ (ps.take n).map (·.name) := by
  unfold bindKw
  rw [List.all_eq_true, filled_plain ps h, (no_var ps h).2]
  refine forall₂_congr fun k _ => ?_
  have hk : (ps.find? fun p => p.name == k && p.byKeyword).isSome = true ↔ k ∈ ps.map (·.name) := by
    rw [List.find?_isSome, List.mem_map]
    refine exists_congr fun p => and_congr_right fun hp => ?_
    simp [Param.byKeyword, (h p hp).1]
  cases hf : ps.find? (fun p => p.name == k && p.byKeyword) <;> simp [← hk, hf]

theorem bindReq_plain (ps : List Param) (h : plain ps) (n : Nat) (ks : List String) :
    bindReq ps n ks = true ↔ ∀ p ∈ ps, p.name ∈ (ps.take n).map (·.name) ∨ p.name ∈ ks := by
  unfold bindReq
  rw [List.all_eq_true, filled_plain ps h]
  refine forall₂_congr fun p hp => ?_
  simp [(h p hp).1, (h p hp).2, Param.byKeyword]

theorem bind_plain (ps : List Param) (h : plain ps) (n : Nat) (ks : List String) :
    bind ps n ks = true ↔ n ≤ ps.length ∧ (∀ k ∈ ks, k ∈ ps.map (·.name) ∧ k ∉ (ps.take n).map (·.name)) ∧
      ∀ p ∈ ps, p.name ∈ (ps.take n).map (·.name) ∨ p.name ∈ ks := by
  rw [bind, Bool.and_eq_true, Bool.and_eq_true, bindPos_plain ps h, bindKw_plain ps h, bindReq_plain ps h, and_assoc]

/-- **Too many positional arguments are refused** (no `*args`): e.g. a definition that
declares three unnamed arguments against a two-parameter callback. -/
theorem too_many_positional (ps : List Param) (h : plain ps) (n : Nat) (ks : List String)
    (hn : ps.length < n) : bind ps n ks = false := by
  rw [Bool.eq_false_iff, ne_eq, bind_plain ps h]
  exact fun hb => Nat.not_le_of_lt hn hb.1

/-- **An unknown keyword is refused** (no `**kwargs`): the renamed-parameter defect. -/
theorem unknown_keyword (ps : List Param) (h : plain ps) (n : Nat) (ks : List String) (k : String)
    (hk : k ∈ ks) (hno : ∀ p ∈ ps, p.name ≠ k) : bind ps n ks = false := by
  rw [Bool.eq_false_iff, ne_eq, bind_plain ps h]
  intro hb
  obtain ⟨p, hp, hpk⟩ := List.mem_map.mp (hb.2.1 k hk).1
  exact hno p hp hpk

/-- **A missing required argument is refused.** -/
theorem missing_required (ps : List Param) (h : plain ps) (n : Nat) (ks : List String) (p : Param)
    (hp : p ∈ ps) (hpos : p.name ∉ ((ps.take n).map (·.name))) (hkw : p.name ∉ ks) : bind ps n ks = false := by
  rw [Bool.eq_false_iff, ne_eq, bind_plain ps h]
  exact fun hb => (hb.2.2 p hp).elim hpos hkw

/-- **Exactly the declared arguments bind**: `npos` values for the first parameters and the
remaining parameter names as keywords (the shape `call_client_method` produces from a
definition with unnamed + named arguments). -/
theorem exact_arguments_bind (ps : List Param) (h : plain ps) (hnd : (ps.map (·.name)).Nodup) (n : Nat)
    (hn : n ≤ ps.length) : bind ps n ((ps.drop n).map (·.name)) = true := by
  have hsplit : ps.map (·.name) = (ps.take n).map (·.name) ++ (ps.drop n).map (·.name) := by
    rw [← List.map_append, List.take_append_drop]
  rw [bind_plain ps h]
  refine ⟨hn, fun k hk => ⟨?_, fun hc => ?_⟩, fun p hp => ?_⟩
  · rw [hsplit]
    exact List.mem_append_right _ hk
  · rw [hsplit, List.nodup_append] at hnd
    exact hnd.2.2 k hc k hk rfl
  · rw [← List.mem_append, ← hsplit]
    exact List.mem_map_of_mem hp

/-- the defect repaired by the `fix:` commit, as an instance: named arguments
playersData/botsData/observersData against a callback with the old parameter names -/
example : bind [⟨"avatar", .pk, false⟩, ⟨"playersStates", .pk, false⟩, ⟨"botsStates", .pk, false⟩,
    ⟨"observersState", .pk, false⟩] 1 ["playersData", "botsData", "observersData"] = false := by decide +kernel

example : bind [⟨"avatar", .pk, false⟩, ⟨"playersData", .pk, false⟩, ⟨"botsData", .pk, false⟩,
    ⟨"observersData", .pk, false⟩] 1 ["playersData", "botsData", "observersData"] = true := by decide +kernel

end ReplayModel.C10
