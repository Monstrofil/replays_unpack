/-
C01 — container decoding is the exact inverse of the replay file format.
-/
import ReplayModel.Container
import ReplayModel.Generated.Facts
import ReplayProofs.Lemmas.Bytes
import ReplayModel.Pipeline
namespace ReplayModel.C01
open ReplayModel

theorem xor8_length (a b : Bytes) (h : a.length = b.length) : (xor8 a b).length = a.length := by
  simp [xor8, h]

theorem xor8_cancel (a b : Bytes) (h : a.length = b.length) : xor8 (xor8 a b) b = a := by
  refine List.ext_getElem (by simp [xor8, h]) fun i _ _ => ?_
  simp [xor8, UInt8.xor_assoc]

theorem xor8_zero (a b : Bytes) (h : a.length = b.length) (hz : isZero b = true) : xor8 a b = a := by
  refine List.ext_getElem (by simp [xor8, h]) fun i _ hi => ?_
  have hb : b[i]'(h ▸ hi) = 0 := eq_of_beq (List.all_eq_true.mp hz _ (List.getElem_mem _))
  simp only [xor8, List.getElem_zipWith, hb, UInt8.xor_zero]

/-- **The chain is inverted exactly**, for every block permutation with `D ∘ E = id` on 8-byte
blocks, any number of blocks (including none), including all-zero plaintext blocks (where
the reader skips the XOR). -/
theorem chain_inverse (E D : Bytes → Bytes) (hD : ∀ b, b.length = 8 → D (E b) = b)
    (blocks : List Bytes) (h8 : ∀ b ∈ blocks, b.length = 8) :
    ∀ (prev : Option Bytes), (∀ q, prev = some q → q.length = 8) →
      unchain prev ((chain E prev blocks).map D) = blocks := by
  induction blocks with
  | nil =>
    intro prev _
    rfl
  | cons p ps ih =>
    intro prev hprev
    obtain ⟨hp, h8⟩ := List.forall_mem_cons.mp h8
    have ih' := ih h8 (some p) fun q hq => Option.some.inj hq ▸ hp
    simp only [chain, List.map_cons, unchain]
    cases prev with
    | none => rw [hD p hp, ih']
    | some q =>
      have hq : p.length = q.length := hp.trans (hprev q rfl).symm
      have : (if isZero q = true then xor8 p q else xor8 (xor8 p q) q) = p := by
        split
        · exact xor8_zero p q hq ‹_›
        · exact xor8_cancel p q hq
      simp only
      rw [hD _ ((xor8_length p q hq).trans hp), this, ih']

theorem chunks8_flatten (blocks : List Bytes) (h8 : ∀ b ∈ blocks, b.length = 8) :
    ∀ fuel, blocks.length < fuel → chunks8 fuel blocks.flatten = blocks := by
  induction blocks with
  | nil =>
    intro fuel hf
    cases fuel <;> rfl
  | cons b bs ih =>
    intro fuel hf
    obtain ⟨hb, h8⟩ := List.forall_mem_cons.mp h8
    cases fuel with
    | zero => cases hf
    | succ n =>
      have hne : (b ++ bs.flatten).isEmpty = false := by
        cases b with
        | nil => cases hb
        | cons x xs => rfl
      simp only [List.flatten_cons, chunks8, hne, Bool.false_eq_true, if_false]
      rw [List.take_left' hb, List.drop_left' hb, ih h8 n (Nat.lt_of_succ_lt_succ hf)]

theorem flatten_length (n : Nat) (blocks : List Bytes) (h : ∀ b ∈ blocks, b.length = n) :
    blocks.flatten.length = n * blocks.length := by
  induction blocks with
  | nil => rfl
  | cons b bs ih =>
    obtain ⟨hb, h⟩ := List.forall_mem_cons.mp h
    rw [List.flatten_cons, List.length_append, hb, ih h, List.length_cons, Nat.mul_succ, Nat.add_comm]

theorem chain_length8 (E : Bytes → Bytes) (hE : ∀ b, b.length = 8 → (E b).length = 8) (blocks : List Bytes)
    (h8 : ∀ b ∈ blocks, b.length = 8) : ∀ prev, (∀ q, prev = some q → q.length = 8) →
      ∀ c ∈ chain E prev blocks, c.length = 8 := by
  induction blocks with
  | nil =>
    intro prev _ c hc
    cases hc
  | cons p ps ih =>
    intro prev hprev
    obtain ⟨hp, h8⟩ := List.forall_mem_cons.mp h8
    refine List.forall_mem_cons.mpr ⟨hE _ ?_, ih h8 (some p) fun q hq => Option.some.inj hq ▸ hp⟩
    cases prev with
    | none => exact hp
    | some q => exact (xor8_length p q (hp.trans (hprev q rfl).symm)).trans hp

theorem chain_count (E : Bytes → Bytes) (blocks : List Bytes) : ∀ prev, (chain E prev blocks).length = blocks.length := by
  induction blocks with
  | nil =>
    intro _
    rfl
  | cons p ps ih =>
    intro prev
    simp [chain, ih]

/-- **Decryption of the payload area**: an arbitrary 8-byte prefix followed by the chained
blocks decrypts to exactly the concatenation of the plaintext blocks — whatever their
number, so for every stream length once padded to the cipher block. -/
theorem decrypt_inverse (E D : Bytes → Bytes) (hD : ∀ b, b.length = 8 → D (E b) = b)
    (hE : ∀ b, b.length = 8 → (E b).length = 8) (pre : Bytes) (hpre : pre.length = 8)
    (blocks : List Bytes) (h8 : ∀ b ∈ blocks, b.length = 8) :
    decryptData D (pre ++ (chain E none blocks).flatten) = .ok blocks.flatten := by
  have hnone : ∀ q : Bytes, (none : Option Bytes) = some q → q.length = 8 := fun _ hq => nomatch hq
  have hc8 := chain_length8 E hE blocks h8 none hnone
  have hall : ∀ b ∈ pre :: chain E none blocks, b.length = 8 := List.forall_mem_cons.mpr ⟨hpre, hc8⟩
  have hch : chunks8 ((pre ++ (chain E none blocks).flatten).length + 1) (pre ++ (chain E none blocks).flatten)
      = pre :: chain E none blocks := by
    refine chunks8_flatten (pre :: chain E none blocks) hall _ ?_
    show _ < (pre :: chain E none blocks).flatten.length + 1
    rw [flatten_length 8 _ hall]
    omega
  have hok : (chain E none blocks).all (fun b => b.length == 8) = true :=
    List.all_eq_true.mpr fun b hb => beq_iff_eq.mpr (hc8 b hb)
  unfold decryptData
  simp only [hch, List.drop_succ_cons, List.drop_zero, hok, if_true]
  rw [chain_inverse E D hD blocks h8 none hnone]

def blockOK (b : Option Bytes) : Prop :=
  match b with
  | some d => d ≠ [] ∧ d.length < 2 ^ 31
  | none => True

theorem readSigned32_append (d rest : Bytes) : readSigned32 (d.length : Int) (d ++ rest) = (d, rest) := by
  unfold readSigned32
  rw [if_neg (by omega), Int.toNat_natCast, List.take_left' rfl, List.drop_left' rfl]

/-- every further block comes back in order; an empty block as `None` -/
theorem blocks_roundtrip (extra : List (Option Bytes)) (h : ∀ b ∈ extra, blockOK b) (rest : Bytes) :
    readBlocks extra.length ((extra.map encodeBlock).flatten ++ rest) = .ok (extra, rest) := by
  induction extra with
  | nil => rfl
  | cons b bs ih =>
    obtain ⟨hb, hbs⟩ := List.forall_mem_cons.mp h
    simp only [List.length_cons, List.map_cons, List.flatten_cons, readBlocks, List.append_assoc]
    cases b with
    | none =>
      rw [encodeBlock, readIntLE_toLE 4 0 _ (by decide)]
      simp [readSigned32, ih hbs]
    | some d =>
      rw [encodeBlock, List.append_assoc, readIntLE_toLE 4 d.length _ hb.2]
      simp [readSigned32_append, ih hbs, hb.1]

/-- **Reading inverts writing.** For every block permutation `(E, D)` with `D ∘ E = id`, every
`inflate` that inverts the compressor on the padded data, every open-info block, every list
of further blocks (empty ones as `None`), every 8-byte prefix and every list of plaintext
blocks: reading the written file returns the game of the extension, exactly the first block,
every further block in order and exactly the original stream. -/
theorem read_write (E D : Bytes → Bytes) (inflate : Bytes → Option Bytes) (ext : String) (game : GameId)
    (engine : Bytes) (extra : List (Option Bytes)) (pre : Bytes) (blocks : List Bytes) (stream : Bytes)
    (hext : gameOfExt ext = some game)
    (hD : ∀ b, b.length = 8 → D (E b) = b) (hE : ∀ b, b.length = 8 → (E b).length = 8)
    (hinf : inflate blocks.flatten = some stream)
    (heng : engine.length < 2 ^ 31) (hcount : extra.length + 1 < 2 ^ 31) (hx : ∀ b ∈ extra, blockOK b)
    (hpre : pre.length = 8) (h8 : ∀ b ∈ blocks, b.length = 8) :
    readContainer D inflate ext (writeContainer E engine extra pre blocks) =
      .ok ⟨game, engine, extra, stream⟩ := by
  have hm : magic.length = 4 := rfl
  have hc : (((1 + extra.length : Nat) : Int) - 1).toNat = extra.length := by omega
  unfold readContainer writeContainer
  simp only [hext, List.append_assoc]
  rw [List.take_left' hm, List.drop_left' hm]
  simp only [bne_self_eq_false, Bool.false_eq_true, if_false]
  rw [readIntLE_toLE 4 _ _ (by omega)]
  simp only [ok_bind]
  rw [readIntLE_toLE 4 _ _ heng]
  simp only [ok_bind, readSigned32_append, hc, blocks_roundtrip extra hx,
    decrypt_inverse E D hD hE pre hpre blocks h8, hinf, pure_eq_ok]

/-- a wrong magic number is rejected with `ValueError`, whatever follows it -/
theorem bad_magic_rejected (D : Bytes → Bytes) (inflate : Bytes → Option Bytes) (ext : String) (file : Bytes)
    (h : file.take 4 ≠ magic) : readContainer D inflate ext file = .error .value := by
  unfold readContainer
  cases gameOfExt ext with
  | none => rfl
  | some g =>
    have : (file.take 4 != magic) = true := by simpa using h
    simp [this]

/-- an unknown extension is rejected with `ValueError` without looking at the file -/
theorem bad_extension_rejected (D : Bytes → Bytes) (inflate : Bytes → Option Bytes) (ext : String)
    (h : gameOfExt ext = none) : ∀ file, readContainer D inflate ext file = .error .value := by
  intro file
  unfold readContainer
  simp [h]

/-! ### facts regenerated from /repo -/

theorem magic_fact : Generated.magic = magic.map (·.toNat) := by decide +kernel

theorem extensions_fact :
    ∀ e ∈ Generated.extensions, (gameOfExt e).isSome = true := by decide +kernel

/-- the three keys are the ones the format documents (one per extension) -/
theorem keys_fact : Generated.keys = [
    ("wotreplay", [222, 114, 190, 160, 222, 4, 190, 177, 222, 254, 190, 239, 222, 173, 190, 239]),
    ("wowpreplay", [222, 114, 190, 239, 222, 173, 190, 239, 222, 173, 190, 239, 222, 173, 190, 239]),
    ("wowsreplay", [41, 183, 201, 9, 56, 63, 132, 136, 250, 152, 236, 78, 19, 25, 121, 251])] := by decide +kernel

/-- Non-vacuity of `read_write`'s hypotheses: the identity permutation and three blocks, the
second all zero (the XOR-skipping case). -/
example : decryptData id ([9, 9, 9, 9, 9, 9, 9, 9] ++ (chain id none [[1, 2, 3, 4, 5, 6, 7, 8], [0, 0, 0, 0, 0, 0, 0, 0],
    [5, 5, 5, 5, 5, 5, 5, 5]]).flatten) = .ok [1, 2, 3, 4, 5, 6, 7, 8, 0, 0, 0, 0, 0, 0, 0, 0, 5, 5, 5, 5, 5, 5, 5, 5] :=
  decrypt_inverse id id (fun _ _ => rfl) (fun _ h => h) _ rfl _ (by decide)

/-- **The raw dump is exactly the decoded stream**, for every written file whose version resolves —
whatever the stream contains (it is not played before the dump is written), in either mode. -/
theorem rawDump_written (env : Env) (E : Bytes → Bytes) (ext : String) (game : GameId)
    (engine : Bytes) (extra : List (Option Bytes)) (pre : Bytes) (blocks : List Bytes) (stream : Bytes)
    (vs : String) (sel : Selection)
    (hext : gameOfExt ext = some game)
    (hD : ∀ b, b.length = 8 → env.D (E b) = b) (hE : ∀ b, b.length = 8 → (E b).length = 8)
    (hinf : env.inflate blocks.flatten = some stream)
    (heng : engine.length < 2 ^ 31) (hcount : extra.length + 1 < 2 ^ 31) (hx : ∀ b ∈ extra, blockOK b)
    (hpre : pre.length = 8) (h8 : ∀ b ∈ blocks, b.length = 8)
    (hv : env.versionOf game engine = some vs) (hs : selectVersion env.bundled game vs = .ok sel) :
    rawDump env ext (writeContainer E engine extra pre blocks) = some stream := by
  have hr := read_write E env.D env.inflate ext game engine extra pre blocks stream hext hD hE hinf heng hcount hx hpre h8
  unfold rawDump
  simp only [hr, hv, hs]

end ReplayModel.C01
