/-
C03 — decoding of .def-declared types is exact and consumes exactly its bytes.
-/
import ReplayModel.Codec
import ReplayProofs.Lemmas.Codec
namespace ReplayModel.C03
open ReplayModel

/-- **C03 main theorem.** For every type tree, every value of that type and every
continuation `rest`, decoding the wire encoding returns exactly the value and leaves
exactly `rest` — for all header sizes, nesting depths, lengths below 2^24.
`userOK` confines USER_TYPE nodes with a non-blob inner type to the domain where
the code's header skipping is right (DESIGN §6 D7; see `userType_counterexample`). -/
theorem decode_encode (h : Nat) (t : Ty) : ∀ (v : Val) (rest : Bytes),
    hasTy t v = true → userOK h t v = true →
    decode h t (encodeWire h t v ++ rest) = .ok (v, rest) := by
  induction t using Ty.ind₂ (Q := fun fs => ∀ vs rest, hasTyFields fs vs = true → userOKFields h fs vs = true →
    decodeFields h fs (encodeFields h fs vs ++ rest) = .ok (vs, rest)) with
  | int k s =>
    intro v rest hv _
    obtain ⟨i, rfl, hk, hi⟩ := hasTy_int hv
    refine bind_eq_ok.mpr ⟨_, readUIntLE_toLE k _ rest (ofSigned_lt k i), ?_⟩
    show Except.ok (Val.int (if s = true then toSigned k (ofSigned k i) else ofSigned k i), rest) = _
    cases s with
    | true => rw [if_pos rfl, toSigned_ofSigned k hk i hi]
    | false => rw [if_neg Bool.false_ne_true, unsigned_ofSigned k i hi]
  | f32 =>
    intro v rest hv _
    obtain ⟨b, rfl, hb⟩ := hasTy_f32 hv
    exact bind_eq_ok.mpr ⟨_, readUIntLE_toLE 4 b rest hb, rfl⟩
  | f64 =>
    intro v rest hv _
    obtain ⟨b, rfl, hb⟩ := hasTy_f64 hv
    exact bind_eq_ok.mpr ⟨_, readUIntLE_toLE 8 b rest hb, rfl⟩
  | vec n =>
    intro v rest hv _
    obtain ⟨xs, rfl, rfl, hx⟩ := hasTy_vec hv
    have hr := readF32s_flatMap xs rest hx
    have hlen : ¬ (xs.flatMap (toLE 4) ++ rest).length < 4 * xs.length := by
      have := readF32s_len hr
      omega
    exact (if_neg hlen).trans (bind_eq_ok.mpr ⟨_, hr, rfl⟩)
  | blob =>
    intro v rest hv _
    obtain ⟨b, rfl, hb⟩ := hasTy_blob hv
    show decode h .blob (writePackedLen b.length ++ b ++ rest) = _
    rw [List.append_assoc]
    exact bind_eq_ok.mpr ⟨_, readPackedLen_writePackedLen _ _ hb, by simp⟩
  | string =>
    intro v rest hv _
    obtain ⟨b, rfl, hb⟩ := hasTy_string hv
    rw [encodeWire_strOrBytes, List.append_assoc]
    exact bind_eq_ok.mpr ⟨_, readPackedLen_writePackedLen _ _ hb, by simp⟩
  | python =>
    intro v rest hv _
    obtain ⟨b, rfl, hb⟩ := hasTy_python hv
    show decode h .python (writePackedLen b.length ++ b ++ rest) = _
    rw [List.append_assoc]
    exact bind_eq_ok.mpr ⟨_, readPackedLen_writePackedLen _ _ hb, by simp⟩
  | mailbox =>
    intro v rest hv _
    obtain ⟨ip, p, rfl, hip, hp⟩ := hasTy_mailbox hv
    show decode h .mailbox (ip ++ toBE 2 p ++ rest) = _
    rw [List.append_assoc]
    refine (if_neg (by simp [hip])).trans ?_
    rw [List.drop_left' hip, List.take_left' hip]
    refine bind_eq_ok.mpr ⟨_, readN_append 2 (toBE 2 p) rest (by simp [toBE]), ?_⟩
    simp [beNat, toBE, leNat_toLE, Nat.mod_eq_of_lt hp]
  | array e sz ih =>
    intro v rest hv hu
    obtain ⟨vs, rfl, hl, hvs⟩ := hasTy_array hv
    have hvs' := repeatRd_flatMap (decode h e) (encodeWire h e) vs rest fun v hm r =>
      ih v r (hvs v hm) (List.all_eq_true.mp hu v hm)
    cases sz with
    | some n =>
      cases hl
      exact bind_eq_ok.mpr ⟨_, hvs', rfl⟩
    | none => exact bind_eq_ok.mpr ⟨_, readUIntLE_cons vs.length _ hl, bind_eq_ok.mpr ⟨_, hvs', rfl⟩⟩
  | fixedDict fs an ih =>
    intro v rest hv hu
    obtain ⟨rfl, rfl⟩ | ⟨vs, rfl, hvs⟩ := hasTy_fixedDict hv
    · rfl
    · cases an
      all_goals exact bind_eq_ok.mpr ⟨_, ih vs rest hvs hu, rfl⟩
  | userType t ih =>
    intro v rest hv hu
    by_cases hb : t.isBlob = true
    · have e1 : encodeWire h (.userType t) v = encodeWire h t v := if_pos hb
      show decode h t (if t.isBlob = true then encodeWire h (.userType t) v ++ rest else _) = _
      rw [if_pos hb, e1]
      refine ih v rest hv ?_
      cases t <;> cases hb
      rfl
    · have hu' : (decide (h = 1) && decide ((encodeWire h t v).length < 255) && userOK h t v) = true :=
        (if_neg hb).symm.trans hu
      simp only [Bool.and_eq_true, decide_eq_true_eq] at hu'
      obtain ⟨⟨rfl, hlen⟩, hu'⟩ := hu'
      -- the packed length of the inner encoding is the one byte that the header size 1 skips
      have e1 : encodeWire 1 (.userType t) v = UInt8.ofNat (encodeWire 1 t v).length :: encodeWire 1 t v := by
        show (if t.isBlob = true then _ else writePackedLen _ ++ _) = _
        rw [if_neg hb, writePackedLen, if_pos hlen]
        rfl
      show decode 1 t (if t.isBlob = true then _ else (encodeWire 1 (.userType t) v ++ rest).drop 1) = _
      rw [if_neg hb, e1]
      exact ih v rest hv hu'
  | nil vs rest hv _ =>
    cases hasTyFields_nil hv
    rfl
  | cons k t fs iht ihf vs rest hv hu =>
    obtain ⟨v, ws, rfl, hv1, hv2⟩ := hasTyFields_cons hv
    obtain ⟨hu1, hu2⟩ := (Bool.and_eq_true _ _).mp hu
    show decodeFields h ((k, t) :: fs) (encodeWire h t v ++ encodeFields h fs ws ++ rest) = _
    rw [List.append_assoc]
    exact bind_eq_ok.mpr ⟨_, iht v _ hv1 hu1, bind_eq_ok.mpr ⟨_, ihf ws rest hv2 hu2, rfl⟩⟩

/-- Non-vacuity: a nested value satisfying the hypotheses. -/
example : hasTy (.fixedDict [("a", .array (.int 2 true) none), ("b", .userType .blob),
            ("c", .fixedDict [("x", .string)] true)] false)
          (.dict [("a", .list [.int (-1), .int 300]), ("b", .bytes [1, 2, 3]), ("c", .none)]) = true
        ∧ userOK 2 (.fixedDict [("a", .array (.int 2 true) none), ("b", .userType .blob),
            ("c", .fixedDict [("x", .string)] true)] false)
          (.dict [("a", .list [.int (-1), .int 300]), ("b", .bytes [1, 2, 3]), ("c", .none)]) = true := by
  decide +kernel

/-- Types without problematic USER_TYPE nodes need no side condition. -/
theorem userOK_of_noUser (h : Nat) (t : Ty) : ∀ v, t.noUser = true → userOK h t v = true := by
  induction t using Ty.ind₂ (Q := fun fs => ∀ vs, Ty.noUserFields fs = true → userOKFields h fs vs = true) with
  | array e sz ih =>
    intro v hn
    cases v with
    | list vs => exact List.all_eq_true.mpr fun x _ => ih x hn
    | _ => rfl
  | fixedDict fs an ih =>
    intro v hn
    cases v with
    | dict vs => exact ih vs hn
    | _ => rfl
  | userType t ih =>
    intro v hn
    exact if_pos hn
  | nil vs _ => rfl
  | cons k t fs iht ihf vs hn =>
    cases vs with
    | nil => rfl
    | cons p ws =>
      obtain ⟨h1, h2⟩ := (Bool.and_eq_true _ _).mp hn
      exact (Bool.and_eq_true _ _).mpr ⟨iht p.2 h1, ihf ws h2⟩
  | _ =>
    intro v _
    rfl

/-- Corollary: the unconditional form for definition sets without such nodes. -/
theorem decode_encode_noUser (h : Nat) (t : Ty) (v : Val) (rest : Bytes)
    (hv : hasTy t v = true) (hn : t.noUser = true) :
    decode h t (encodeWire h t v ++ rest) = .ok (v, rest) :=
  decode_encode h t v rest hv (userOK_of_noUser h t v hn)

/-- The packed length: one byte below 255, `0xFF` + 3 LE bytes up to 2^24 − 1. -/
theorem readLen_writeLen (n : Nat) (rest : Bytes) (h : n < 2 ^ 24) :
    readPackedLen (writePackedLen n ++ rest) = .ok (n, rest) :=
  readPackedLen_writePackedLen n rest h

example : writePackedLen 254 = [254] := rfl
example : writePackedLen 255 = [255, 255, 0, 0] := rfl
example : writePackedLen 256 = [255, 0, 1, 0] := rfl
example : writePackedLen 65535 = [255, 255, 255, 0] := rfl
example : writePackedLen 65536 = [255, 0, 0, 1] := rfl

/-- D7 (known finding): with header size 2 the code's reading of a USER_TYPE whose
inner type is not a blob leaves the stream misaligned — the full statement is false
outside `userOK`. Witness: FLAT_VECTOR-like `USER_TYPE<Type>UINT16` under header 2. -/
theorem userType_counterexample :
    ∃ (t : Ty) (v : Val), hasTy t v = true ∧
      decode 2 t (encodeWire 2 t v ++ [7]) ≠ .ok (v, [7]) := by
  refine ⟨.userType (.int 2 false), .int 513, by decide +kernel, fun hc => ?_⟩
  -- `Val` has no decidable equality: compare the bytes left over
  have := congrArg (fun r => r.toOption.map (·.2)) hc
  revert this
  decide +kernel

end ReplayModel.C03
