/-
C19 — an installed copy is complete (the packaging rule).
-/
import ReplayModel.Pack
namespace ReplayModel.C19
open ReplayModel

theorem mem_tailsOf {α : Type} (t s : List α) : t ∈ tailsOf s ↔ t <:+ s := by
  induction s with
  | nil => simp [tailsOf]
  | cons x xs ih => rw [tailsOf, List.mem_cons, ih, List.suffix_cons_iff]

/-- a star-free pattern segment matches exactly itself -/
theorem segMatch_literal (lit : List Char) (hl : '*' ∉ lit) : ∀ s : List Char, segMatch lit s = decide (lit = s) := by
  induction lit with
  | nil =>
    intro s
    cases s <;> simp [segMatch]
  | cons p ps ih =>
    intro s
    rw [List.mem_cons, not_or] at hl
    have hp : (p == '*') = false := by simpa using Ne.symm hl.1
    cases s with
    | nil => simp [segMatch, hp]
    | cons c cs => simp [segMatch, hp, ih hl.2 cs, Bool.beq_eq_decide_eq]

/-- **`*` followed by a literal matches exactly the names ending in that literal**
(`*.py`, `*.def`, `*.xml`). -/
theorem segMatch_star_suffix (lit : List Char) (hl : '*' ∉ lit) (s : List Char) :
    segMatch ('*' :: lit) s = true ↔ lit <:+ s := by
  simp only [segMatch, beq_self_eq_true, if_true, List.any_eq_true, mem_tailsOf, segMatch_literal lit hl,
    decide_eq_true_eq]
  exact ⟨fun ⟨t, ht, hm⟩ => hm ▸ ht, fun h => ⟨lit, h, rfl⟩⟩

/-- **Completeness as a decision**: nothing is missing iff every needed file is shipped -/
theorem shipped_complete_iff (files : List String) (cfg : SetupCfg) (root script : String) :
    missing files cfg root script = [] ↔
      ∀ f ∈ files, neededFile root script f = true → shippedFile files (packagesOf files) cfg f = true := by
  unfold missing
  rw [List.filter_eq_nil_iff]
  refine forall₂_congr fun f _ => ?_
  cases neededFile root script f <;> cases shippedFile files (packagesOf files) cfg f <;> simp

/-- a package directory contains `__init__.py`, and so does every directory above it -/
theorem package_has_init (files : List String) (d : String) (h : isPackage files d = true) :
    ∀ a ∈ ancestors d, files.contains (a ++ "/__init__.py") = true := by
  unfold isPackage at h
  simp only [Bool.and_eq_true, List.all_eq_true] at h
  exact h.2

/-- a Python module directly inside a package is shipped, whatever the data patterns are -/
theorem module_of_package_shipped (files pkgs : List String) (cfg : SetupCfg) (f : String)
    (hp : pkgs.contains (dirOf f) = true) (hpy : ".py".toList <:+ (baseOf f).toList) :
    shippedFile files pkgs cfg f = true := by
  -- as a definitional unfolding of `String.toList` on the literal this equation is slow to check
  have hpat : "*.py".toList = '*' :: ".py".toList := by decide +kernel
  unfold shippedFile
  rw [hp, hpat, (segMatch_star_suffix _ (by decide +kernel) _).mpr hpy]
  simp

/-- the data patterns of `setup.py`: a definition file below a `scripts` directory of a
package is matched; `*` does not cross a directory separator -/
example : globMatch ["**", "scripts", "**", "*.def"] ["versions", "0_8_0", "scripts", "entity_defs", "Avatar.def"] = true := by
  decide +kernel
example : globMatch ["**", "scripts", "*.xml"] ["versions", "0_8_0", "scripts", "entities.xml"] = true := by
  decide +kernel
example : globMatch ["*.py"] ["fixtures", "CamouflageInfo.py"] = false := by decide +kernel
example : globMatch ["fixtures", "*.py"] ["fixtures", "CamouflageInfo.py"] = true := by decide +kernel

end ReplayModel.C19
