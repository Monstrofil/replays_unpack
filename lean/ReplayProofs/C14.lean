/-
C14 — results serialise to JSON and the CLI prints exactly one JSON document.
-/
import ReplayModel.JsonOut
import ReplayModel.Controller
import ReplayModel.World
import ReplayModel.Play
import ReplayModel.Generated.Facts
import ReplayProofs.C05
namespace ReplayModel.C14
open ReplayModel

theorem pyTerm_induct {P : PyTerm → Prop} {PL : List PyTerm → Prop} {PK : List (PyTerm × PyTerm) → Prop}
    {PF : List (String × PyTerm) → Prop}
    (none : P .none) (bool : ∀ b, P (.bool b)) (int : ∀ i, P (.int i)) (float : ∀ r, P (.float r))
    (str : ∀ s, P (.str s)) (bytes : ∀ h, P (.bytes h)) (other : ∀ r, P (.other r))
    (list : ∀ xs, PL xs → P (.list xs)) (tuple : ∀ xs, PL xs → P (.tuple xs))
    (dict : ∀ kvs, PK kvs → P (.dict kvs)) (obj : ∀ c fs, PF fs → P (.obj c fs))
    (nilL : PL []) (consL : ∀ x xs, P x → PL xs → PL (x :: xs))
    (nilK : PK []) (consK : ∀ k v rest, P v → PK rest → PK ((k, v) :: rest))
    (nilF : PF []) (consF : ∀ n v rest, P v → PF rest → PF ((n, v) :: rest)) : ∀ t, P t :=
  PyTerm.rec (motive_1 := P) (motive_2 := PL) (motive_3 := PK) (motive_4 := PF)
    (motive_5 := fun kv => P kv.2) (motive_6 := fun f => P f.2)
    none bool int float str bytes list tuple dict obj other
    nilL (fun x xs => consL x xs) nilK (fun kv rest => consK kv.1 kv.2 rest) nilF (fun f rest => consF f.1 f.2 rest)
    (fun _ _ _ ih => ih) (fun _ _ ih => ih)

/-- the model of the encoder's acceptance and the condition on the keys are the same recursion -/
theorem encodable_eq_keysOK (t : PyTerm) : encodable t = keysOK t := by
  induction t using pyTerm_induct (PL := fun xs => encodableList xs = keysOKList xs)
    (PK := fun kvs => encodableKVs kvs = keysOKKVs kvs) (PF := fun fs => encodableFields fs = keysOKFields fs) with
  | consL x xs ihx ihxs => rw [encodableList, keysOKList, ihx, ihxs]
  | consK k v rest ihv ihr => rw [encodableKVs, keysOKKVs, ihv, ihr]
  | consF n v rest ihv ihr => rw [encodableFields, keysOKFields, ihv, ihr]
  | list _ ih | tuple _ ih | dict _ ih | obj _ _ ih => exact ih
  | _ => rfl

/-- **Serialisation can only fail on a bad dict key**: a term all of whose dict keys are
str / int / float / bool / None is accepted by the shipped encoder, whatever else it
contains (objects, bytes, tuples, nesting to any depth; cycles cannot occur). One direction of
`encodable_eq_keysOK`. -/
theorem encodable_of_keysOK : ∀ t : PyTerm, keysOK t = true → encodable t = true :=
  fun t h => (encodable_eq_keysOK t).trans h

/-- a tuple (or bytes) key is what makes `json.dumps` raise -/
theorem tuple_key_counterexample : encodable (.dict [(.tuple [.int 1, .int 0], .int 5)]) = false := by
  decide +kernel

/-! ### nothing in the packet handlers writes to standard output -/

theorem put_stdout (w : World) (e : Entity) : (w.put e).stdout = w.stdout := rfl

/-- **Playing any packet leaves standard output untouched**: for every dialect, packet, id
and value (the model has no output statement in any handler; the tie is the CLI run and the
regenerated list of print sites below). -/
theorem step_stdout (cfg : Config) (w : World) (p : Packet) : (step cfg w p).world.stdout = w.stdout :=
  (C05.step_changes cfg w p).stdout

theorem playPackets_stdout (jsonOk : Bytes → Bool) (cfg : Config) (strict : Bool) (ps : List NetPacket) :
    ∀ (w : World) (i : Nat) (f : List (Nat × Err)), (playPackets jsonOk cfg strict w i ps f).1.stdout = w.stdout :=
  fun w i f => playPackets_preserves (P := fun w' => w'.stdout = w.stdout) jsonOk cfg
    (fun w' p h => (step_stdout cfg w' p).trans h) strict ps w i f rfl

/-- playing a whole stream never writes to standard output -/
theorem play_stdout_empty (jsonOk : Bytes → Bool) (cfg : Config) (strict : Bool) (stream : Bytes) :
    (play jsonOk cfg strict {} stream).world.stdout = [] :=
  playPackets_stdout jsonOk cfg strict _ {} 0 []

/-! ### facts regenerated from /repo -/

def allowedPrintSite (s : String × String) : Bool :=
  s == ("replay_parser.py", "<module>") ||                       -- the one JSON document of the CLI
  s == ("replay_unpack/replay_reader.py", "_save_decrypted_data") ||   -- only with dump_binary=True
  s.2 == "onSetConsumable"                                       -- never registered as a callback

/-- every output statement in the package is one of the three known sites … -/
theorem printSites_fact : Generated.printSites.all allowedPrintSite = true := by
  -- not `decide`: the kernel compares string literals by unfolding both to UTF-8 bytes; `simp` has literal simprocs
  simp [Generated.printSites, allowedPrintSite]

/-- … `onSetConsumable` is not registered by any bundled controller … -/
theorem onSetConsumable_unsubscribed_fact : Generated.subscribedCallbacks.contains "onSetConsumable" = false := by
  simp [Generated.subscribedCallbacks]

/-- … and the parser never asks the reader for its debugging dump -/
theorem parser_no_dump_fact : Generated.parserDumpBinary = false := rfl

def intDict {α : Type} (f : α → PyTerm) (d : List (Int × α)) : PyTerm :=
  .dict (d.map fun kv => (.int kv.1, f kv.2))

def strDict {α : Type} (f : α → PyTerm) (d : List (String × α)) : PyTerm :=
  .dict (d.map fun kv => (.str kv.1, f kv.2))

def optTerm {α : Type} (f : α → PyTerm) : Option α → PyTerm
  | none => .none
  | some a => f a

/-- the summary of the modelled fold as the Python structure `get_info` returns (the fields the
fold produces; same names as in the controllers) -/
def summaryTerm (s : Summary) : PyTerm :=
  .dict [
    (.str "achievements", intDict (intDict PyTerm.int) s.achievements),
    (.str "ribbons", intDict (intDict PyTerm.int) s.ribbons),
    (.str "players", intDict (strDict PyTerm.str) s.players),
    (.str "battle_result", optTerm (fun r => .dict [(.str "winner_team_id", .int r.1), (.str "victory_type", .int r.2)]) s.battleResult),
    (.str "damage_map", intDict PyTerm.str s.damage),
    (.str "shots_damage_map", intDict (intDict PyTerm.int) s.shots),
    (.str "death_map", .list (s.deaths.map fun d => .tuple [.int d.1, .int d.2.1, .int d.2.2])),
    (.str "map", optTerm (fun b => .bytes (String.ofList (b.map (fun c => Char.ofNat c.toNat)))) s.map),
    (.str "player_id", optTerm PyTerm.int s.playerId),
    (.str "arena_id", optTerm PyTerm.int s.arenaId),
    (.str "planes", intDict PyTerm.int s.planes)]

theorem keysOK_dict_map {κ α : Type} (key : κ → PyTerm) (hk : ∀ a, (key a).keyOK = true) (f : α → PyTerm)
    (d : List (κ × α)) :
    keysOK (.dict (d.map fun kv => (key kv.1, f kv.2))) = d.all fun kv => keysOK (f kv.2) := by
  simp only [keysOK]
  induction d with
  | nil => rfl
  | cons kv rest ih => simp [keysOKKVs, hk, ih]

theorem keysOK_intDict {α : Type} (f : α → PyTerm) (d : List (Int × α)) :
    keysOK (intDict f d) = d.all fun kv => keysOK (f kv.2) :=
  keysOK_dict_map PyTerm.int (fun _ => rfl) f d

theorem keysOK_strDict {α : Type} (f : α → PyTerm) (d : List (String × α)) :
    keysOK (strDict f d) = d.all fun kv => keysOK (f kv.2) :=
  keysOK_dict_map PyTerm.str (fun _ => rfl) f d

theorem keysOK_optTerm {α : Type} (f : α → PyTerm) (o : Option α) :
    keysOK (optTerm f o) = o.all fun a => keysOK (f a) := by
  cases o <;> rfl

theorem keysOKList_map {α : Type} (f : α → PyTerm) (l : List α) :
    keysOKList (l.map f) = l.all fun a => keysOK (f a) := by
  induction l with
  | nil => rfl
  | cons a l ih => simp [keysOKList, ih]

/-- **Every summary the fold can produce is serialisable** — for every sequence of events (any
ids, counts, names): all dict keys anywhere in the structure are ints or strings, so
`json.dumps(..., cls=DefaultEncoder)` cannot raise on it (`encodable_of_keysOK`). What would
break it is exactly `tuple_key_counterexample`: a compound key. -/
theorem summary_keysOK (s : Summary) : keysOK (summaryTerm s) = true := by
  simp [summaryTerm, keysOK, keysOKKVs, keysOKList, PyTerm.keyOK, keysOK_intDict, keysOK_strDict, keysOK_optTerm,
    keysOKList_map]

theorem summary_encodable (es : List Event) : encodable (summaryTerm (summarize es)) = true :=
  encodable_of_keysOK _ (summary_keysOK _)

/-- non-trivial instance: two deaths, an achievement, a roster row -/
example : encodable (summaryTerm (summarize [.death 1 2 3, .death 2 2 4, .achievement 7 9, .roster 5 [("name", "x")]])) = true :=
  summary_encodable _

theorem toks_ne_nil (t : PyTerm) : toks t ≠ [] := by
  cases t <;> exact List.cons_ne_nil _ _

/-- for every term, accepted or not (for a refused term `toks` describes no output) -/
theorem toks_is_value (t : PyTerm) : JValue (toks t) := by
  induction t using pyTerm_induct (PL := fun xs => JElems (toksList xs)) (PK := fun kvs => JMembers (toksKVs kvs))
    (PF := fun fs => JMembers (toksFields fs)) with
  | none | bool | int | float => exact .atom _
  | str | bytes | other => exact .str _
  | list _ ih | tuple _ ih => exact .arr _ ih
  | dict _ ih | obj _ _ ih => exact .obj _ ih
  | nilL | nilK | nilF => exact .nil
  -- a comma follows exactly when the rest, and so its token list, is not empty
  | consL x xs ihx ihxs =>
    cases xs with
    | nil => simpa [toksList] using JElems.one _ ihx
    | cons y ys => simpa [toksList] using JElems.cons _ _ ihx ihxs (by simp [toksList, toks_ne_nil])
  | consK k v rest ihv ihr =>
    cases rest with
    | nil => simpa [toksKVs] using JMembers.one (keyText k) _ ihv
    | cons y ys => simpa [toksKVs] using JMembers.cons (keyText k) _ _ ihv ihr (by simp [toksKVs])
  | consF n v rest ihv ihr =>
    cases rest with
    | nil => simpa [toksFields] using JMembers.one n _ ihv
    | cons y ys => simpa [toksFields] using JMembers.cons n _ _ ihv ihr (by simp [toksFields])

/-- **What the encoder writes is exactly one JSON value.** For every term the shipped encoder
accepts — any nesting of lists, tuples, dicts with accepted keys, objects (through `__dict__`),
bytes and other objects (through `str`) — the token sequence of the output is derivable as a
single value of the JSON grammar: brackets balanced, members `"key": value`, commas exactly
between neighbours, nothing before or after. The grammar fact is `toks_is_value`; the hypothesis
says when `toks` is the output. -/
theorem dumps_is_one_document : ∀ t : PyTerm, encodable t = true → JValue (toks t) :=
  fun t _ => toks_is_value t

/-- the CLI's standard output for a parse that yields a summary: nothing from the play
(`play_stdout_empty`) and then the one document `print(json.dumps(...))` writes -/
theorem summary_is_one_document (es : List Event) : JValue (toks (summaryTerm (summarize es))) :=
  dumps_is_one_document _ (summary_encodable es)


/-- a nested instance: `{"a": [1, {"b": null}], "7": "x"}` -/
example : JValue (toks (.dict [(.str "a", .list [.int 1, .dict [(.str "b", .none)]]), (.int 7, .str "x")])) :=
  dumps_is_one_document _ (by decide +kernel)

end ReplayModel.C14
