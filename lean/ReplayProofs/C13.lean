/-
C13 — parsing is deterministic and independent of what was parsed before.

The only mutable state a parse reads that survives it is the class-level subscription
registry (`core/entity.py`). A parse starts by clearing it (`ControlledPlayerBase.__init__`
→ `Entity.clear_subscriptions`), then the controller of the selected version registers its
callbacks, then the stream is played. In the model a parse is therefore a function of the
registry it *finds*, the subscriptions the controller makes and the stream; the theorems say
the found registry is irrelevant. (Imported version modules and `sys.path` also persist; they
are immutable data for the parser — the tie checks that by comparing with fresh processes.)
-/
import ReplayModel.World
import ReplayModel.Play
namespace ReplayModel.C13
open ReplayModel

/-- `Entity.clear_subscriptions()` -/
def clear (_ : Registry) : Registry := {}

/-- the controller's `__init__`: a sequence of `subscribe_*` calls -/
inductive SubCall where
  | method (key : String) (s : Sub)
  | prop (key : String) (s : Sub)
  | nested (key : String) (s : Sub)

def register (r : Registry) : SubCall → Registry
  | .method k s => { r with methods := subscribe r.methods k s }
  | .prop k s => { r with props := subscribe r.props k s }
  | .nested k s => { r with nested := subscribe r.nested k s }

/-- one parse: clear, let the controller subscribe, play; returns the result and the registry
left behind -/
def parse (jsonOk : Bytes → Bool) (defs : Defs) (dialect : Dialect) (controller : List SubCall) (strict : Bool)
    (found : Registry) (stream : Bytes) : PlayResult × Registry :=
  let reg := controller.foldl register (clear found)
  (play jsonOk { defs := defs, dialect := dialect, reg := reg } strict {} stream, reg)

/-- **The result of a parse does not depend on the registry it finds** — i.e. on anything
parsed before in the same process (any game, version, mode, successful or failed). -/
theorem parse_result_local (jsonOk : Bytes → Bool) (defs : Defs) (dialect : Dialect) (controller : List SubCall)
    (strict : Bool) (r1 r2 : Registry) (stream : Bytes) :
    parse jsonOk defs dialect controller strict r1 stream = parse jsonOk defs dialect controller strict r2 stream := rfl

/-- in particular it equals the fresh-process result (empty registry) -/
theorem parse_eq_fresh (jsonOk : Bytes → Bool) (defs : Defs) (dialect : Dialect) (controller : List SubCall)
    (strict : Bool) (found : Registry) (stream : Bytes) :
    (parse jsonOk defs dialect controller strict found stream).1 =
      (parse jsonOk defs dialect controller strict {} stream).1 := rfl

/-- a whole sequence of parses: each file's result is its fresh-process result, whatever
the order, repetitions or mixture -/
def parseAll (jsonOk : Bytes → Bool) :
    Registry → List (Defs × Dialect × List SubCall × Bool × Bytes) → List PlayResult
  | _, [] => []
  | r, (d, dl, c, st, s) :: rest =>
    let out := parse jsonOk d dl c st r s
    out.1 :: parseAll jsonOk out.2 rest

theorem parse_sequence (jsonOk : Bytes → Bool) (jobs : List (Defs × Dialect × List SubCall × Bool × Bytes)) :
    ∀ r : Registry, parseAll jsonOk r jobs =
      jobs.map (fun j => (parse jsonOk j.1 j.2.1 j.2.2.1 j.2.2.2.1 {} j.2.2.2.2).1) := by
  induction jobs with
  | nil => intro r; rfl
  | cons j rest ih =>
    intro r
    obtain ⟨d, dl, c, st, s⟩ := j
    exact congrArg (List.cons _) (ih _)

/-- the registry a parse leaves behind is exactly its own controller's: nothing of earlier
controllers survives (the repaired accumulation defect) -/
theorem registry_after_parse (jsonOk : Bytes → Bool) (defs : Defs) (dialect : Dialect) (controller : List SubCall)
    (strict : Bool) (found : Registry) (stream : Bytes) :
    (parse jsonOk defs dialect controller strict found stream).2 = controller.foldl register {} := rfl

/-- determinism: the model's parse is a function -/
theorem parse_deterministic (jsonOk : Bytes → Bool) (defs : Defs) (dialect : Dialect) (controller : List SubCall)
    (strict : Bool) (found : Registry) (stream : Bytes) :
    ∀ a b, a = parse jsonOk defs dialect controller strict found stream →
      b = parse jsonOk defs dialect controller strict found stream → a = b :=
  fun _ _ ha hb => ha.trans hb.symm

/-- Non-vacuity: a stale registry with a raising subscriber on a key the new controller also
uses does not change the outcome. -/
example : (parse (fun _ => true) ⟨[]⟩ wowsOld [.method "Avatar_m" ⟨1, false⟩] true
      { methods := [("Avatar_m", [⟨0, true⟩])] } []).2.methods = [("Avatar_m", [⟨1, false⟩])] := by
  decide +kernel

end ReplayModel.C13
