/-
C04 — numeric ids on the wire resolve to the right definition members.
-/
import ReplayModel.Defs
import ReplayModel.Generated.Facts
import ReplayProofs.Lemmas.Basic
namespace ReplayModel.C04
open ReplayModel

/-- an entity type id denotes the 1-based position in the entities list; 0, negative ids
and ids past the end are refused -/
theorem entity_index (d : Defs) (k : Int) (e : EntityDef) :
    d.byIndex k = .ok e ↔ 1 ≤ k ∧ d.entities[(k - 1).toNat]? = some e := by
  unfold Defs.byIndex
  by_cases hk : 1 ≤ k
  · simp only [hk, if_true, true_and]
    cases h : d.entities[(k - 1).toNat]? <;> simp
  · simp [hk]

theorem entity_index_nat (d : Defs) (n : Nat) (e : EntityDef) (h : d.entities[n]? = some e) :
    d.byIndex ((n : Int) + 1) = .ok e := by
  rw [entity_index]
  refine ⟨by omega, ?_⟩
  have : ((n : Int) + 1 - 1).toNat = n := by omega
  rw [this, h]

/-- specification: an entry is kept iff no earlier entry (nor anything in `seen`) has its
name; kept entries stay in order -/
def keepFirstAux (seen : List String) : List MethodDef → List MethodDef
  | [] => []
  | m :: ms => if seen.contains m.name then keepFirstAux seen ms else m :: keepFirstAux (m.name :: seen) ms

def keepFirst (ms : List MethodDef) : List MethodDef := keepFirstAux [] ms

/-- `seen` may be any list with the names of `acc` as its members: the fold appends where
`keepFirstAux` conses. -/
theorem mergeFirstWins_eq (acc new : List MethodDef) (seen : List String)
    (h : ∀ x, x ∈ seen ↔ x ∈ acc.map (·.name)) :
    mergeFirstWins acc new = acc ++ keepFirstAux seen new := by
  unfold mergeFirstWins
  induction new generalizing acc seen with
  | nil => simp [keepFirstAux]
  | cons m new ih =>
    have hc : acc.any (·.name == m.name) = seen.contains m.name := by
      rw [Bool.eq_iff_iff, List.contains_iff_mem, h, List.mem_map, List.any_eq_true]
      simp only [beq_iff_eq]
    rw [List.foldl_cons, keepFirstAux, hc]
    split
    · exact ih acc seen h
    · rw [ih (acc ++ [m]) (m.name :: seen) (by simp [h, or_comm]), List.append_assoc]
      rfl

/-- **First wins, declaration order.** Folding a section's methods into the list built so
far keeps that list as a prefix (earlier definitions keep position and content) and
appends, in order, exactly the methods whose name has not been seen before. -/
theorem methods_first_wins (acc new : List MethodDef) :
    mergeFirstWins acc new = acc ++ keepFirstAux (acc.map (·.name)) new :=
  mergeFirstWins_eq acc new _ fun _ => Iff.rfl

/-- from an empty table: the method list is `keepFirst` of everything parsed, in order -/
theorem methods_order (new : List MethodDef) : mergeFirstWins [] new = keepFirst new := by
  rw [methods_first_wins]; rfl

theorem keepFirstAux_find (seen : List String) (l : List MethodDef) (n : String) (h : n ∉ seen) :
    (keepFirstAux seen l).find? (·.name == n) = l.find? (·.name == n) := by
  induction l generalizing seen with
  | nil => rfl
  | cons m ms ih =>
    rw [keepFirstAux]
    by_cases hm : m.name = n
    · simp [hm, h]
    · have hn : (m.name == n) = false := by simpa using hm
      split
      · rw [List.find?_cons, hn]
        exact ih seen h
      · simp only [List.find?_cons, hn]
        exact ih _ (by simp [h, Ne.symm hm])

/-- the kept definition of a name is the first one -/
theorem first_definition_kept (l : List MethodDef) (n : String) :
    (keepFirst l).find? (·.name == n) = l.find? (·.name == n) :=
  keepFirstAux_find [] l n (by simp)

/-- specification: an entry survives iff no later entry has its name; order preserved -/
def keepLast : List PropDef → List PropDef
  | [] => []
  | p :: ps => if ps.any (·.name == p.name) then keepLast ps else p :: keepLast ps

def notIn (b : List PropDef) (x : PropDef) : Bool := !(b.any (·.name == x.name))

theorem keepLast_sublist (l : List PropDef) : (keepLast l).Sublist l := by
  induction l with
  | nil => exact .slnil
  | cons p ps ih =>
    rw [keepLast]
    split
    · exact ih.cons p
    · exact ih.cons_cons p

theorem keepLast_nodup (l : List PropDef) : ((keepLast l).map (·.name)).Nodup := by
  induction l with
  | nil => exact .nil
  | cons p ps ih =>
    rw [keepLast]
    split
    · exact ih
    · rename_i hc
      rw [List.map_cons, List.nodup_cons]
      refine ⟨fun hm => hc ?_, ih⟩
      obtain ⟨x, hx, hxn⟩ := List.mem_map.mp hm
      exact List.any_eq_true.mpr ⟨x, (keepLast_sublist ps).subset hx, by simpa using hxn⟩

theorem mergeLastWins_eq (acc new : List PropDef) :
    mergeLastWins acc new = acc.filter (notIn new) ++ keepLast new := by
  unfold mergeLastWins
  induction new generalizing acc with
  | nil =>
    have : acc.filter (notIn []) = acc := List.filter_eq_self.mpr fun _ _ => rfl
    simp [keepLast, this]
  | cons p ps ih =>
    rw [List.foldl_cons, ih, List.filter_append, List.filter_filter, List.append_assoc]
    congr 1
    · refine List.filter_congr fun x _ => ?_
      simp [notIn, Bool.and_comm, bne, BEq.comm]
    · simp only [keepLast, notIn, List.filter_cons, List.filter_nil]
      by_cases hc : ps.any (·.name == p.name) = true <;> simp [hc]

theorem keepLast_append_of_nodup (acc new : List PropDef) (h : (acc.map (·.name)).Nodup) :
    keepLast (acc ++ new) = acc.filter (notIn new) ++ keepLast new := by
  induction acc with
  | nil => rfl
  | cons x a ih =>
    rw [List.map_cons, List.nodup_cons] at h
    have hx : a.any (·.name == x.name) = false := by
      simpa using fun y hy hyn => h.1 (List.mem_map.mpr ⟨y, hy, hyn⟩)
    simp only [List.cons_append, keepLast, List.any_append, hx, Bool.false_or, ih h.2, List.filter_cons, notIn]
    by_cases h2 : new.any (·.name == x.name) = true <;> simp [h2]

/-- **Last wins, later position.** Folding a section's properties into the table built so
far gives exactly `keepLast` of the concatenation: a redefined name disappears from its old
position and the new definition sits where it was declared last. -/
theorem props_last_wins (acc new : List PropDef) (h : (acc.map (·.name)).Nodup) :
    mergeLastWins acc new = keepLast (acc ++ new) := by
  rw [mergeLastWins_eq, keepLast_append_of_nodup acc new h]

section sort
variable {α : Type} (key : α → Nat)

theorem le_trans_key (a b c : α) : (decide (key a ≤ key b)) = true → (decide (key b ≤ key c)) = true →
    (decide (key a ≤ key c)) = true := by
  simp only [decide_eq_true_eq]; omega

theorem le_total_key (a b : α) : (decide (key a ≤ key b) || decide (key b ≤ key a)) = true := by
  simp only [Bool.or_eq_true, decide_eq_true_eq]; omega

/-- the exposed list is a permutation of the filtered list (nothing lost, nothing added) -/
theorem exposed_perm (l : List α) : (stableSortBy key l).Perm l :=
  List.mergeSort_perm l _

theorem pairwise_key (l : List α) :
    l.Pairwise (fun a b => decide (key a ≤ key b) = true) ↔ l.Pairwise (fun a b => key a ≤ key b) := by
  simp

/-- it is non-decreasing in wire size -/
theorem exposed_sorted (l : List α) : (stableSortBy key l).Pairwise (fun a b => key a ≤ key b) :=
  (pairwise_key key _).mp (List.pairwise_mergeSort (le_trans_key key) (le_total_key key) l)

/-- members of equal size keep their declaration order (stability): more generally every
size-sorted sublist of the declaration list is still a sublist of the exposed list -/
theorem exposed_stable (l c : List α) (hc : c.Pairwise (fun a b => key a ≤ key b)) (h : c.Sublist l) :
    c.Sublist (stableSortBy key l) :=
  List.sublist_mergeSort (le_trans_key key) (le_total_key key) ((pairwise_key key c).mpr hc) h

theorem exposed_stable_pair (l : List α) (a b : α) (hab : key a = key b) (h : [a, b].Sublist l) :
    [a, b].Sublist (stableSortBy key l) :=
  exposed_stable key l [a, b] (by simp [hab]) h

/-- an already size-sorted declaration list is its own exposed list -/
theorem exposed_of_sorted (l : List α) (h : l.Pairwise (fun a b => key a ≤ key b)) :
    stableSortBy key l = l :=
  List.mergeSort_of_pairwise ((pairwise_key key l).mpr h)

end sort

/-- all arguments are fixed-size: their sizes add up to less than `INFINITY` -/
def isFixed (m : MethodDef) : Bool := decide ((m.args.map (·.2.sizeInBytes)).sum < INFINITY)

/-- `WFDefs` for a method list: fixed sizes plus header stay below `INFINITY` -/
def wfMethods (ms : List MethodDef) : Prop :=
  ∀ m ∈ ms, isFixed m = true → (m.args.map (·.2.sizeInBytes)).sum + m.header < INFINITY

theorem size_of_isFixed {m : MethodDef} (h : isFixed m = true) :
    m.size = (m.args.map (·.2.sizeInBytes)).sum + m.header := by
  have : ¬ (m.args.map (·.2.sizeInBytes)).sum ≥ INFINITY := by simpa [isFixed] using h
  simp [MethodDef.size, this]

theorem size_of_not_isFixed {m : MethodDef} (h : isFixed m = false) : m.size = INFINITY + m.header := by
  have : (m.args.map (·.2.sizeInBytes)).sum ≥ INFINITY := by simpa [isFixed] using h
  simp [MethodDef.size, this]

/-- **Every variable-size method comes after every fixed-size one** in the exposed list. -/
theorem variable_after_fixed (ms : List MethodDef) (hwf : wfMethods ms) :
    ∀ (i j : Nat) (a b : MethodDef), (exposedMethods ms)[i]? = some a → (exposedMethods ms)[j]? = some b →
      isFixed a = false → isFixed b = true → j < i := by
  intro i j a b hi hj ha hb
  obtain ⟨hi', rfl⟩ := List.getElem?_eq_some_iff.mp hi
  obtain ⟨hj', rfl⟩ := List.getElem?_eq_some_iff.mp hj
  have hmem := (List.mem_filter.mp ((exposed_perm MethodDef.size _).mem_iff.mp (List.getElem_mem hj'))).1
  have hb' := hwf _ hmem hb
  rw [← size_of_isFixed hb] at hb'
  have ha' := size_of_not_isFixed ha
  -- otherwise `a` stands at or before `b` in a list sorted by size, though it is the larger
  refine Nat.lt_of_not_le fun hij => ?_
  rcases Nat.lt_or_eq_of_le hij with h | rfl
  · have : (exposedMethods ms)[i].size ≤ (exposedMethods ms)[j].size :=
      List.pairwise_iff_getElem.mp (exposed_sorted MethodDef.size _) i j hi' hj' h
    omega
  · rw [ha] at hb
    cases hb

/-- the internal lists are order-preserving sublists of the declaration list, selected
exactly by the mask -/
theorem internal_sublist (ps : List PropDef) (mask : Nat) :
    (propsByFlags ps mask).Sublist ps ∧ ∀ p, p ∈ propsByFlags ps mask ↔ p ∈ ps ∧ p.flags &&& mask ≠ 0 := by
  refine ⟨List.filter_sublist, ?_⟩
  intro p
  simp [propsByFlags, List.mem_filter]

/-! ### Facts regenerated from /repo -/

/-- the masks `Entity.__init__` passes (observed on the live code) are client 118,
internal 102, cell 33, base 16, and only the first call asks for the exposed index -/
theorem masks_fact : Generated.masks = [({} : Masks).client, ({} : Masks).internal, ({} : Masks).cell,
    ({} : Masks).base, 1, 0, 0, 0] := rfl

theorem flagValues_fact : Generated.flagValues = ReplayModel.flagValues := rfl

theorem infinity_fact : Generated.infinity = INFINITY := rfl

theorem defaultHeader_fact : Generated.defaultHeaderSize = 1 := rfl

/-- class behind each alias-language type name, as the model's `simpleTypes` assumes -/
def simpleKindName : SimpleKind → String
  | .leaf (.int 1 true) => "Int8" | .leaf (.int 2 true) => "Int16" | .leaf (.int 4 true) => "Int32"
  | .leaf (.int 8 true) => "Int64" | .leaf (.int 1 false) => "UInt8" | .leaf (.int 2 false) => "UInt16"
  | .leaf (.int 4 false) => "UInt32" | .leaf (.int 8 false) => "UInt64"
  | .leaf .f32 => "Float32" | .leaf .f64 => "Float64"
  | .leaf (.vec 2) => "Vector2" | .leaf (.vec 3) => "Vector3" | .leaf (.vec 4) => "Vector4"
  | .leaf .blob => "Blob" | .leaf .string => "String" | .leaf .python => "Python" | .leaf .mailbox => "Mailbox"
  | .fixedDict => "FixedDict" | .array => "Array" | .userType => "UserType"
  | _ => "?"

theorem simpleTypes_fact :
    ∀ p ∈ Generated.simpleTypes, (dictGet? ReplayModel.simpleTypes p.1).map simpleKindName = some p.2 := by
  decide +kernel

theorem simpleTypes_count_fact : Generated.simpleTypes.length = ReplayModel.simpleTypes.length := by decide +kernel

/-- what one section contributes by itself (everything of `parseSection` except the interfaces) -/
def ownPart (al : Aliases) (tyFuel : Nat) (d : EntityDef) (sec : Xml) : R EntityDef := do
  let props ← match sec.find "Properties" with
    | some p => addProps al tyFuel d.props p | none => pure d.props
  let vol := match sec.find "Volatile" with | some v => addVolatile d.volatile v | none => d.volatile
  let client ← match sec.find "ClientMethods" with
    | some m => addMethods al tyFuel true d.client m | none => pure d.client
  let cell ← match sec.find "CellMethods" with
    | some m => addMethods al tyFuel false d.cell m | none => pure d.cell
  let base ← match sec.find "BaseMethods" with
    | some m => addMethods al tyFuel false d.base m | none => pure d.base
  pure { d with props := props, volatile := vol, client := client, cell := cell, base := base }

/-- the sections in the order their own parts are applied: for every `<Implements>` entry, in
declaration order, everything that interface visits (depth first), then the section itself -/
def visitOrder (ifaces : List (String × Xml)) : Nat → Xml → R (List Xml)
  | 0, _ => .error .other
  | fuel+1, sec => do
    let subs ← match sec.find "Implements" with
      | none => pure []
      | some impl => impl.children.foldlM (fun acc it => do
          let nm ← it.stripped
          match dictGet? ifaces nm with
          | none => .error .other
          | some root => do
            let vs ← visitOrder ifaces fuel root
            pure (acc ++ vs)) []
    pure (subs ++ [sec])


/-- one entry of `<Implements>`: look the interface up and hand its root to `f` (the loop body
of both `parseSection` and `visitOrder`) -/
def implStep {σ : Type} (ifaces : List (String × Xml)) (f : σ → Xml → R σ) (acc : σ) (it : Xml) : R σ := do
  let nm ← it.stripped
  match dictGet? ifaces nm with
  | none => .error .other
  | some root => f acc root

theorem implStep_eq_ok {σ : Type} {ifaces : List (String × Xml)} {f : σ → Xml → R σ} {acc r : σ} {it : Xml} :
    implStep ifaces f acc it = .ok r ↔
      ∃ nm root, it.stripped = .ok nm ∧ dictGet? ifaces nm = some root ∧ f acc root = .ok r := by
  unfold implStep
  rw [bind_eq_ok]
  refine exists_congr fun nm => ?_
  cases dictGet? ifaces nm <;> simp

theorem parseSection_succ (al : Aliases) (ifaces : List (String × Xml)) (tyFuel fuel : Nat) (d : EntityDef) (sec : Xml) :
    parseSection al ifaces tyFuel (fuel + 1) d sec =
      (match sec.find "Implements" with
        | none => pure d
        | some impl => impl.children.foldlM (implStep ifaces (parseSection al ifaces tyFuel fuel)) d) >>=
      fun d1 => ownPart al tyFuel d1 sec := by
  rw [parseSection]
  cases sec.find "Implements" <;> rfl

theorem visitOrder_succ (ifaces : List (String × Xml)) (fuel : Nat) (sec : Xml) :
    visitOrder ifaces (fuel + 1) sec =
      (match sec.find "Implements" with
        | none => pure []
        | some impl => impl.children.foldlM
            (implStep ifaces fun acc root => visitOrder ifaces fuel root >>= fun vs => pure (acc ++ vs)) []) >>=
      fun subs => pure (subs ++ [sec]) := by
  rw [visitOrder]
  cases sec.find "Implements" <;> rfl

/-- the interface loop, flattened: if every interface visited by `f` is a fold of `own` over what `visit` lists, so is the loop -/
theorem foldlM_implStep_flat {σ : Type} (ifaces : List (String × Xml)) (f own : σ → Xml → R σ) (visit : Xml → R (List Xml))
    (ih : ∀ d d' root, f d root = .ok d' → ∃ vs, visit root = .ok vs ∧ vs.foldlM own d = .ok d')
    (children : List Xml) (d d' : σ) (accV : List Xml) (h : children.foldlM (implStep ifaces f) d = .ok d') :
    ∃ vs, children.foldlM (implStep ifaces fun acc root => visit root >>= fun vs => pure (acc ++ vs)) accV =
        .ok (accV ++ vs) ∧ vs.foldlM own d = .ok d' := by
  induction children generalizing d accV with
  | nil =>
    cases h
    exact ⟨[], by simp, rfl⟩
  | cons it rest ihc =>
    rw [List.foldlM_cons, bind_eq_ok] at h
    obtain ⟨d1, h1, hrest⟩ := h
    obtain ⟨nm, root, hs, hl, hf⟩ := implStep_eq_ok.mp h1
    obtain ⟨vs1, hv1, hf1⟩ := ih d d1 root hf
    obtain ⟨vs2, hv2, hf2⟩ := ihc d1 (accV ++ vs1) hrest
    refine ⟨vs1 ++ vs2, ?_, ?_⟩
    · rw [List.foldlM_cons, implStep_eq_ok.mpr ⟨nm, root, hs, hl, congrArg (· >>= fun vs => pure (accV ++ vs)) hv1⟩, ok_bind, hv2, List.append_assoc]
    · rw [List.foldlM_append, hf1, ok_bind, hf2]

/-- **Interface recursion is a flat fold.** Whenever a section parses, the result is the
left fold of the sections' own parts (properties last-wins, methods first-wins, volatiles)
over the depth-first visiting order: each `<Implements>` entry in declaration order with
everything it implements before it, the section itself last. -/
theorem parseSection_flat (al : Aliases) (ifaces : List (String × Xml)) (tyFuel : Nat) :
    ∀ (fuel : Nat) (d d' : EntityDef) (sec : Xml), parseSection al ifaces tyFuel fuel d sec = .ok d' →
      ∃ vs, visitOrder ifaces fuel sec = .ok vs ∧ vs.foldlM (ownPart al tyFuel) d = .ok d' := by
  intro fuel
  induction fuel with
  | zero =>
    intro d d' sec h
    cases h
  | succ fuel ih =>
    intro d d' sec h
    rw [parseSection_succ, bind_eq_ok] at h
    obtain ⟨d1, h1, hown⟩ := h
    rw [visitOrder_succ]
    cases hi : sec.find "Implements" with
    | none =>
      rw [hi] at h1
      cases h1
      exact ⟨[sec], rfl, by simp [hown]⟩
    | some impl =>
      rw [hi] at h1
      obtain ⟨vs, hv, hf⟩ := foldlM_implStep_flat ifaces _ (ownPart al tyFuel) _ ih impl.children d d1 [] h1
      refine ⟨vs ++ [sec], congrArg (· >>= fun subs => pure (subs ++ [sec])) hv, ?_⟩
      rw [List.foldlM_append, hf]
      simp [hown]

/-- the six top-level sections `parseSection` looks at -/
def sectionTags : List String := ["Implements", "Properties", "Volatile", "ClientMethods", "CellMethods", "BaseMethods"]

/-- `parseSection` sees a section only through `find` on those six tags -/
theorem parseSection_congr (al : Aliases) (ifaces : List (String × Xml)) (tyFuel fuel : Nat) (d : EntityDef) (sec sec' : Xml)
    (h : ∀ t ∈ sectionTags, sec.find t = sec'.find t) :
    parseSection al ifaces tyFuel fuel d sec = parseSection al ifaces tyFuel fuel d sec' := by
  cases fuel with
  | zero => rfl
  | succ fuel =>
    simp only [sectionTags, List.forall_mem_cons] at h
    simp only [parseSection, h]

/-- `find` does not depend on the order of the children when every tag occurs at most once -/
theorem find_perm (c c' : List Xml) (hperm : c.Perm c') (hnd : (c.map Xml.tag).Nodup) (t : String) :
    c.find? (·.tag == t) = c'.find? (·.tag == t) :=
  find?_perm Xml.tag t hperm hnd

/-- **The order of the top-level sections of a `.def` file carries no meaning**: two sections
whose children are a permutation of each other (each tag at most once) parse to the same
definition — interfaces first, then the file's own members, whatever the document order. -/
theorem parseSection_order_irrelevant (al : Aliases) (ifaces : List (String × Xml)) (tyFuel fuel : Nat) (d : EntityDef)
    (tag : String) (text text' : Option String) (c c' : List Xml) (hperm : c.Perm c') (hnd : (c.map Xml.tag).Nodup) :
    parseSection al ifaces tyFuel fuel d (.node tag text c) = parseSection al ifaces tyFuel fuel d (.node tag text' c') :=
  parseSection_congr al ifaces tyFuel fuel d _ _ (fun t _ => find_perm c c' hperm hnd t)


/-- non-vacuity: `<Properties>` before `<Implements>` is a permutation with distinct tags -/
example : [Xml.node "Properties" none [], Xml.node "Implements" none []].Perm [Xml.node "Implements" none [], Xml.node "Properties" none []] ∧
    ([Xml.node "Properties" none [], Xml.node "Implements" none []].map Xml.tag).Nodup := by
  exact ⟨List.Perm.swap _ _ _, by decide +kernel⟩

end ReplayModel.C04
