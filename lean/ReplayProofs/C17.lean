/-
C17 — bit-field arithmetic is exact.
-/
import ReplayModel.Bits
import ReplayProofs.Lemmas.Bits
namespace ReplayModel.C17
open ReplayModel

theorem bitsRequired_le_iff (n k : Nat) : bitsRequired n ≤ k ↔ n ≤ 2 ^ k := by
  unfold bitsRequired
  split
  · have := Nat.one_le_two_pow (n := k)
    omega
  · rw [Nat.add_one_le_iff, Nat.log2_lt (by omega)]
    omega

theorem bitsRequired_small (n : Nat) (h : n ≤ 1) : bitsRequired n = 0 := by
  simp [bitsRequired, h]

/-- `bitsRequired n` is ⌈log₂ n⌉ for every n ≥ 2 (no bound on n):
`2^(k-1) < n ≤ 2^k`. -/
theorem bitsRequired_spec (n : Nat) (h : 2 ≤ n) :
    2 ^ (bitsRequired n - 1) < n ∧ n ≤ 2 ^ bitsRequired n := by
  -- the exponent `bitsRequired n` reaches `n`, the one below it does not (0 does not, as `2 ≤ n`)
  have h0 := bitsRequired_le_iff n 0
  have h1 := bitsRequired_le_iff n (bitsRequired n - 1)
  have h2 := bitsRequired_le_iff n (bitsRequired n)
  omega

theorem bitsRequired_unique (n k : Nat) (hk : 1 ≤ k)
    (lo : 2 ^ (k - 1) < n) (hi : n ≤ 2 ^ k) : bitsRequired n = k := by
  have h1 := bitsRequired_le_iff n (k - 1)
  have h2 := bitsRequired_le_iff n k
  omega

/-- the step-function form: constant on (2^k, 2^(k+1)] -/
theorem bitsRequired_breakpoints (k n : Nat) (lo : 2 ^ k < n) (hi : n ≤ 2 ^ (k + 1)) :
    bitsRequired n = k + 1 :=
  bitsRequired_unique n (k + 1) (Nat.succ_pos k) lo hi

theorem bitsRequired_mono (a b : Nat) (h : a ≤ b) : bitsRequired a ≤ bitsRequired b :=
  (bitsRequired_le_iff a _).mpr (Nat.le_trans h ((bitsRequired_le_iff b _).mp (Nat.le_refl _)))

/-- bits of a byte are delivered most significant first -/
theorem bitsOfByte_msb_first (b : UInt8) : bitsVal (bitsOfByte b) = b.toNat := by
  have key : ∀ n, n < 256 → bitsVal ([7, 6, 5, 4, 3, 2, 1, 0].map fun i => decide (n / 2 ^ i % 2 = 1)) = n := by
    decide +kernel
  exact key b.toNat b.toNat_lt

/-- **Single-step law of the reader**: with `pending r` the bits still to come
(cache, then the stream bytes MSB first), `get w` returns the big-endian value of the
first `w` pending bits and a reader whose pending is the rest — for every width,
including 0, across byte boundaries. This is the form that composes for a dependent
parser (each width may depend on values read before). -/
theorem get_pending (r : BitReader) (w : Nat) (h : w ≤ r.pending.length) :
    ∃ r', r.get w = .ok (bitsVal (r.pending.take w), r') ∧ r'.pending = r.pending.drop w := by
  obtain ⟨r', h1, h2, _⟩ := get_take r w h
  exact ⟨r', h1, h2⟩

/-- reading more bits than are left fails (the `Exception('I am empty')` path) -/
theorem get_exhausted (r : BitReader) (w : Nat) (h : r.pending.length < w) :
    r.get w = .error .other :=
  getAcc_exhausted w 0 r h

/-- `if nbits == 0: return 0` -/
theorem get_zero (r : BitReader) : r.get 0 = .ok (0, r) := rfl

/-- read a sequence of widths -/
def getMany : List Nat → BitReader → R (List Nat × BitReader)
  | [], r => .ok ([], r)
  | w :: ws, r => do
    let (v, r1) ← r.get w
    let (vs, r2) ← getMany ws r1
    pure (v :: vs, r2)

/-- cut a bit list into fields of the given widths -/
def fields : List Nat → List Bool → List Nat
  | [], _ => []
  | w :: ws, bits => bitsVal (bits.take w) :: fields ws (bits.drop w)

/-- all bits of a byte string -/
def bitsOf (bs : Bytes) : List Bool := bs.flatMap bitsOfByte

theorem bitsOf_length (bs : Bytes) : (bitsOf bs).length = 8 * bs.length :=
  (pending_length ⟨bs, []⟩).trans (Nat.zero_add _)

theorem getMany_inv (ws : List Nat) : ∀ (r : BitReader), ws.sum ≤ r.pending.length →
    ∃ r', getMany ws r = .ok (fields ws r.pending, r') ∧ r'.pending = r.pending.drop ws.sum ∧
      (∀ bs, r.Inv bs → r'.Inv bs) := by
  induction ws with
  | nil => exact fun r _ => ⟨r, rfl, rfl, fun _ h => h⟩
  | cons w ws ih =>
    intro r hs
    rw [List.sum_cons] at hs
    obtain ⟨r1, h1, h2, h3⟩ := get_take r w (Nat.le_of_add_right_le hs)
    obtain ⟨r2, g1, g2, g3⟩ := ih r1 (by rw [h2, List.length_drop]; omega)
    refine ⟨r2, ?_, ?_, fun bs hb => g3 bs (h3 bs hb)⟩
    · simp [getMany, h1, g1, h2, fields]
    · rw [g2, h2, List.drop_drop, List.sum_cons]

/-- **Field sequences and the remainder.** Reading widths `ws` from a fresh reader over
`bs` (enough bits present) yields the MSB-first fields of the bit string of `bs`, and the
remainder handed on by `get_rest` starts at the next whole byte: `bs.drop ⌈Σws / 8⌉`. -/
theorem getMany_spec (bs : Bytes) (ws : List Nat) (h : ws.sum ≤ 8 * bs.length) :
    ∃ r', getMany ws (BitReader.ofBytes bs) = .ok (fields ws (bitsOf bs), r') ∧
      r'.getRest = bs.drop ((ws.sum + 7) / 8) := by
  have hl : (BitReader.ofBytes bs).pending.length = 8 * bs.length := bitsOf_length bs
  obtain ⟨r', h1, h2, h3⟩ := getMany_inv ws (BitReader.ofBytes bs) (hl ▸ h)
  refine ⟨r', h1, ?_⟩
  rw [getRest_of_inv r' bs (h3 bs (ofBytes_inv bs)), h2, List.length_drop]
  congr 1
  omega

/-- alias in the wording of the property: after k bits the rest starts at byte ⌈k/8⌉ -/
theorem getRest_aligned (bs : Bytes) (k : Nat) (h : k ≤ 8 * bs.length) :
    ∃ r', getMany [k] (BitReader.ofBytes bs) = .ok ([bitsVal ((bitsOf bs).take k)], r') ∧
      r'.getRest = bs.drop ((k + 7) / 8) := by
  simpa [fields] using getMany_spec bs [k] (by simpa using h)

/-- Non-vacuity / example across a byte boundary: fields 3,7,6 of A5 FF 01 33. -/
example : getMany [3, 7, 6] (BitReader.ofBytes [0xA5, 0xFF, 0x01, 0x33])
    = .ok ([5, 23, 63], ⟨[0x01, 0x33], []⟩) := by rfl

end ReplayModel.C17
