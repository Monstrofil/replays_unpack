import ReplayModel.World
import ReplayProofs.Lemmas.Basic
namespace ReplayModel

/-! ### dicts: `dictSet` is `upsert`, `dictGet?` is `lookup` -/

theorem dictGet_dictSet_same {α : Type} (d : List (String × α)) (k : String) (v : α) :
    dictGet? (dictSet d k v) k = some v :=
  lookup_upsert_same d k fun _ => v

theorem dictGet_dictSet_other {α : Type} (d : List (String × α)) (k k' : String) (v : α) (hne : k' ≠ k) :
    dictGet? (dictSet d k v) k' = dictGet? d k' :=
  lookup_upsert_other d k k' (fun _ => v) hne

theorem dictSet_keys {α : Type} (d : List (String × α)) (k : String) (v : α) :
    (dictSet d k v).map (·.1) = if d.any (·.1 == k) then d.map (·.1) else d.map (·.1) ++ [k] :=
  upsert_keys d k fun _ => v

/-! ### the entity table: `World.put` is `upsert` on the id, `World.get?` is `lookup` -/

/-- keys agree with the ids stored in the entities -/
def World.WF (w : World) : Prop := ∀ p ∈ w.entities, p.2.id = p.1

theorem World.wf_empty : ({} : World).WF := fun _ h => nomatch h

theorem World.get_wf (w : World) (h : w.WF) (i : Int) (e : Entity) (hg : w.get? i = some e) : e.id = i := by
  obtain ⟨p, hf, rfl⟩ := Option.map_eq_some_iff.mp hg
  exact (h p (List.mem_of_find?_eq_some hf)).trans (by simpa using List.find?_some hf)

theorem World.get_put_same (w : World) (e : Entity) : (w.put e).get? e.id = some e :=
  lookup_upsert_same w.entities e.id fun _ => e

/-- an entity looked up under `i` may be replaced by any entity with its id -/
theorem World.get_put_got (w : World) (h : w.WF) {i : Int} {e e' : Entity} (hg : w.get? i = some e)
    (hid : e'.id = e.id) : (w.put e').get? i = some e' :=
  (hid.trans (World.get_wf w h i e hg)) ▸ World.get_put_same w e'

theorem World.get_put_other (w : World) (e : Entity) (j : Int) (hne : j ≠ e.id) :
    (w.put e).get? j = w.get? j :=
  lookup_upsert_other w.entities e.id j (fun _ => e) hne

/-- Python dict order: replacing an entity keeps its place in the table, a new id goes last -/
theorem World.put_ids (w : World) (e : Entity) :
    (w.put e).entities.map (·.1) =
      if w.entities.any (·.1 == e.id) then w.entities.map (·.1) else w.entities.map (·.1) ++ [e.id] :=
  upsert_keys w.entities e.id fun _ => e

theorem World.put_wf (w : World) (e : Entity) (h : w.WF) : (w.put e).WF := by
  unfold World.WF World.put at *
  simp only
  split
  · intro p hp
    obtain ⟨q, hq, rfl⟩ := List.mem_map.mp hp
    split
    · rfl
    · exact h q hq
  · intro p hp
    rcases List.mem_append.mp hp with hp | hp
    · exact h p hp
    · cases List.mem_singleton.mp hp
      rfl

end ReplayModel
