/-
The packet loop `playPackets`: what it does on a packet that succeeds / fails, that the lenient
loop reports no raised packet, and that it preserves what every step preserves.
-/
import ReplayModel.Play
namespace ReplayModel

section
variable {jsonOk : Bytes → Bool} {cfg : Config} {strict : Bool} {w : World} {np : NetPacket}

theorem playPackets_cons_ok (h : (stepNet jsonOk cfg w np).err = none) (i : Nat) (rest : List NetPacket)
    (f : List (Nat × Err)) :
    playPackets jsonOk cfg strict w i (np :: rest) f =
      playPackets jsonOk cfg strict (stepNet jsonOk cfg w np).world (i + 1) rest f := by
  rw [playPackets, h]

theorem playPackets_cons_err {e : Err} (h : (stepNet jsonOk cfg w np).err = some e) (i : Nat)
    (rest : List NetPacket) (f : List (Nat × Err)) :
    playPackets jsonOk cfg strict w i (np :: rest) f =
      if strict then ((stepNet jsonOk cfg w np).world, some (i, e), f ++ [(i, e)])
      else playPackets jsonOk cfg strict (stepNet jsonOk cfg w np).world (i + 1) rest (f ++ [(i, e)]) := by
  rw [playPackets, h]

end

section
variable (jsonOk : Bytes → Bool) (cfg : Config)

theorem playPackets_lenient_none (ps : List NetPacket) : ∀ (w : World) (i : Nat) (f : List (Nat × Err)),
    (playPackets jsonOk cfg false w i ps f).2.1 = none := by
  induction ps with
  | nil => intro w i f; rfl
  | cons np rest ih =>
    intro w i f
    cases he : (stepNet jsonOk cfg w np).err with
    | none =>
      rw [playPackets_cons_ok he]
      exact ih ..
    | some e =>
      rw [playPackets_cons_err he]
      exact ih ..

variable {P : World → Prop} (hstep : ∀ w p, P w → P (step cfg w p).world)
include hstep

theorem stepNet_preserves (w : World) (np : NetPacket) (hw : P w) : P (stepNet jsonOk cfg w np).world := by
  unfold stepNet
  split
  · exact hw
  · split
    · exact hw
    · exact hstep w _ hw

theorem playPackets_preserves (strict : Bool) (ps : List NetPacket) :
    ∀ (w : World) (i : Nat) (f : List (Nat × Err)), P w → P (playPackets jsonOk cfg strict w i ps f).1 := by
  induction ps with
  | nil => intro w i f hw; exact hw
  | cons np rest ih =>
    intro w i f hw
    have h1 := stepNet_preserves jsonOk cfg hstep w np hw
    cases he : (stepNet jsonOk cfg w np).err with
    | none =>
      rw [playPackets_cons_ok he]
      exact ih _ _ _ h1
    | some e =>
      rw [playPackets_cons_err he]
      cases strict
      · exact ih _ _ _ h1
      · exact h1

end

end ReplayModel
