/-
What one packet may do to a world, said once (`Changes`): it puts at most one entity, the one
it addresses, appends to the log and sets player id, map and arena id; one lemma per handler.
`C05.step_changes` puts them together, and the frame, invariant, log-order and stdout theorems
of C05, C07 and C14 each read their part off it. Then `step` outside World of Warplanes and the
inversion of `applyNested`.
-/
import ReplayProofs.Lemmas.World
namespace ReplayModel

theorem setClientProperty_id (reg : Registry) (e : Entity) (idx : Nat) (bs : Bytes) :
    (setClientProperty reg e idx bs).1.id = e.id := by
  unfold setClientProperty
  split
  · rfl
  · split <;> rfl

theorem createLoop_id (reg : Registry) (n : Nat) : ∀ (e : Entity) (bs : Bytes) (log : List LogEntry),
    (createLoop reg n e bs log).1.id = e.id := by
  induction n with
  | zero => intro e bs log; rfl
  | succ n ih =>
    intro e bs log
    unfold createLoop
    cases bs with
    | nil => rfl
    | cons k rest =>
      have h1 := setClientProperty_id reg e k.toNat rest
      dsimp only
      split
      · exact h1
      · rw [ih, h1]

theorem fillPlayer_id (ent : Entity) (value : Bytes) (b wp : Bool) :
    (fillPlayer ent value b wp).1.id = ent.id := by
  unfold fillPlayer
  split
  · rfl
  · split <;> rfl

theorem withVol_id (e : Entity) (kvs : List (String × Val)) : (e.withVol kvs).id = e.id := rfl

-- through `withVol_id`: a bare `rfl` evaluates the four assignments first
theorem setPose_id (e : Entity) (p : Pose) : (setPose e p).id = e.id := withVol_id e _

theorem copyPose_id (m s : Entity) : (copyPose m s).1.id = s.id := by
  unfold copyPose
  split
  · exact withVol_id ..
  · exact withVol_id ..
  · exact withVol_id ..
  · exact withVol_id ..
  · rfl

theorem applyNested_ok {reg : Registry} {e e' : Entity} {sl : Bool} {payload : Bytes} {l : List LogEntry}
    {raised : Bool} (h : applyNested reg e sl payload = .ok (e', l, raised)) :
    ∃ (name : String) (out : NestedOut), e' = { e with client := dictSet e.client name out.val } ∧
      (l, raised) = match out.notify with
        | none => ([], false)
        | some obj =>
          let path := ".".intercalate (name :: out.path)
          applyNested.runAll e obj path
            (reg.nested.filter fun kv => ((e.view.name ++ "_" ++ path).splitOn kv.1).length > 1) := by
  unfold applyNested at h
  dsimp only at h
  split at h
  · cases h
  split at h
  · cases h
  split at h
  · cases h
  split at h
  · cases h
  rename_i p _
  split at h
  · cases h
  split at h
  · cases h
  rename_i out _
  split at h
  all_goals
    rename_i hn
    cases h
    exact ⟨p.name, out, rfl, by rw [hn]⟩

theorem applyNested_id {reg : Registry} {e e' : Entity} {sl : Bool} {payload : Bytes} {l : List LogEntry}
    {raised : Bool} (h : applyNested reg e sl payload = .ok (e', l, raised)) : e'.id = e.id := by
  obtain ⟨_, _, rfl, _⟩ := applyNested_ok h
  rfl

/-- `w'` is `w` after at most one `put` of an entity whose id is `i` (given that keys and stored
ids agree in `w`: a looked-up entity then carries the id it was looked up by), with entries
appended to the log; player id, map and arena id are free, standard output is untouched -/
structure Changes (i : Option Int) (w w' : World) : Prop where
  stdout : w'.stdout = w.stdout
  log : ∃ l, w'.log = w.log ++ l
  entities : w'.entities = w.entities ∨ ∃ e, (w.WF → some e.id = i) ∧ w'.entities = (w.put e).entities

namespace Changes
variable {i : Option Int} {w w' : World}

theorem of_eq (hs : w'.stdout = w.stdout) (hl : w'.log = w.log) (he : w'.entities = w.entities) :
    Changes i w w' :=
  ⟨hs, ⟨[], by rw [hl, List.append_nil]⟩, .inl he⟩

theorem refl : Changes i w w := of_eq rfl rfl rfl

theorem put (e : Entity) (h : w.WF → some e.id = i) : Changes i w (w.put e) :=
  ⟨rfl, ⟨[], (List.append_nil _).symm⟩, .inr ⟨e, h, rfl⟩⟩

theorem put_new {id : Int} (e : Entity) (h : e.id = id) : Changes (some id) w (w.put e) :=
  put e fun _ => congrArg some h

theorem put_got {id : Int} {e0 : Entity} (hget : w.get? id = some e0) (e : Entity) (hid : e.id = e0.id) :
    Changes (some id) w (w.put e) :=
  put e fun hwf => by rw [hid, World.get_wf w hwf id e0 hget]

theorem withLog (h : Changes i w w') (l : List LogEntry) : Changes i w { w' with log := w.log ++ l } :=
  ⟨h.stdout, ⟨l, rfl⟩, h.entities⟩

theorem finish (h : Changes i w w') (j : Int) (sp : Bool) : Changes i w (finishPlayer w' j sp) := by
  unfold finishPlayer
  split
  · exact ⟨h.stdout, h.log, h.entities⟩
  · exact h

theorem frame (h : Changes i w w') (hwf : w.WF) (j : Int) (hj : ∀ k, i = some k → j ≠ k) :
    w'.get? j = w.get? j := by
  unfold World.get?
  rcases h.entities with he | ⟨e, hid, he⟩
  · rw [he]
  · rw [he]
    exact World.get_put_other w e j (hj e.id (hid hwf).symm)

theorem preserves (h : Changes i w w') (P : World → Prop) (hput : ∀ w e, P w → P (w.put e))
    (hent : ∀ w w' : World, w'.entities = w.entities → P w → P w') (hw : P w) : P w' := by
  rcases h.entities with he | ⟨e, _, he⟩
  · exact hent w w' he hw
  · exact hent (w.put e) w' he (hput w e hw)

end Changes

theorem playerCreate_changes (cfg : Config) (w : World) (id : Int) (v : Bytes) (b sp wp : Bool) :
    Changes (some id) w (playerCreate cfg w id v b sp wp).world := by
  unfold playerCreate
  split
  · next ent hget =>
    have hput := Changes.put_got hget _ (fillPlayer_id ent v b wp)
    dsimp only
    split
    · exact hput
    · exact hput.finish id sp
  · split
    · exact .refl
    · next d _ =>
      dsimp only
      split
      · exact .refl
      · exact (Changes.put_new _ (fillPlayer_id (Entity.new cfg.masks id d) v b wp)).finish id sp

theorem stepEntityCreate_changes (cfg : Config) (w : World) (id ty : Int) (state : Bytes) :
    Changes (some id) w (stepEntityCreate cfg w id ty state).world := by
  unfold stepEntityCreate
  split
  · exact .refl
  · next d _ =>
    split
    · exact .refl
    · next c rest =>
      dsimp only
      split
      · exact Changes.refl.withLog _
      · split
        · exact (Changes.put_new _ (createLoop_id cfg.reg c.toNat (Entity.new cfg.masks id d) rest [])).withLog _
        · exact Changes.refl.withLog _

theorem stepEntityProperty_changes (cfg : Config) (w : World) (id : Int) (idx : Nat) (data : Bytes) :
    Changes (some id) w (stepEntityProperty cfg w id idx data).world := by
  unfold stepEntityProperty
  split
  · exact .refl
  · next e hget =>
    have hput := (Changes.put_got hget _ (setClientProperty_id cfg.reg e idx data)).withLog
      (setClientProperty cfg.reg e idx data).2.2.1
    dsimp only
    split <;> exact hput

theorem stepEntityMethod_changes (cfg : Config) (w : World) (id : Int) (idx : Nat) (data : Bytes)
    (i : Option Int) : Changes i w (stepEntityMethod cfg w id idx data).world := by
  unfold stepEntityMethod
  split
  · exact .refl
  · exact Changes.refl.withLog _

theorem stepNested_changes (cfg : Config) (w : World) (id : Int) (sl : Bool) (payload : Bytes) :
    Changes (some id) w (stepNested cfg w id sl payload).world := by
  unfold stepNested
  split
  · exact .refl
  · next e hget =>
    split
    · exact .refl
    · exact .refl
    · next e' l raised ha =>
      have hput := (Changes.put_got hget e' (applyNested_id ha)).withLog l
      dsimp only
      split <;> exact hput

theorem stepPosition_changes (w : World) (id : Int) (pose : Pose) :
    Changes (some id) w (stepPosition w id pose).world := by
  unfold stepPosition
  split
  · exact .refl
  · next e hget => exact .put_got hget _ (setPose_id e pose)

theorem stepPlayerPosition_changes (w : World) (id1 id2 : Int) (pose : Pose) :
    Changes (some id1) w (stepPlayerPosition w id1 id2 pose).world := by
  unfold stepPlayerPosition
  split
  · split
    · next master slave _ hs =>
      have hput := Changes.put_got hs _ (copyPose_id master slave)
      dsimp only
      split <;> exact hput
    · exact .refl
  · split
    · split
      · next e hget => exact .put_got hget _ (setPose_id e pose)
      · exact .refl
    · exact .refl

theorem stepLookup_changes (w : World) (id : Int) (i : Option Int) : Changes i w (stepLookup w id).world := by
  unfold stepLookup
  split <;> exact .refl

/-! ### `step` outside World of Warplanes -/

section
variable {cfg : Config} (hg : cfg.dialect.game ≠ .wowp) (w : World)
include hg

theorem step_entityProperty (id idx : Nat) (data : Bytes) :
    step cfg w (.entityProperty id idx data) = stepEntityProperty cfg w id idx data := by
  unfold step
  cases hgame : cfg.dialect.game with
  | wowp => exact absurd hgame hg
  | _ => rfl

theorem step_entityMethod (id idx : Nat) (data : Bytes) :
    step cfg w (.entityMethod id idx data) = stepEntityMethod cfg w id idx data := by
  unfold step
  cases hgame : cfg.dialect.game with
  | wowp => exact absurd hgame hg
  | _ => rfl

theorem step_nested (id : Nat) (sl : Bool) (payload : Bytes) :
    step cfg w (.nested id sl payload) = stepNested cfg w id sl payload := by
  unfold step
  cases hgame : cfg.dialect.game with
  | wowp => exact absurd hgame hg
  | _ => rfl

theorem step_position (id : Int) (pose : Pose) : step cfg w (.position id pose) = stepPosition w id pose := by
  unfold step
  cases hgame : cfg.dialect.game with
  | wowp => exact absurd hgame hg
  | _ => rfl

theorem step_entityEnter (id : Int) : step cfg w (.entityEnter id) = stepLookup w id := by
  unfold step
  cases hgame : cfg.dialect.game with
  | wowp => exact absurd hgame hg
  | _ => rfl

theorem step_entityLeave (id : Int) : step cfg w (.entityLeave id) = stepLookup w id := by
  unfold step
  cases hgame : cfg.dialect.game with
  | wowp => exact absurd hgame hg
  | _ => rfl

end

end ReplayModel
