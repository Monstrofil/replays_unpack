import ReplayModel.Bytes
import ReplayProofs.Lemmas.Basic
namespace ReplayModel

@[simp] theorem toLE_length (k n : Nat) : (toLE k n).length = k := by
  induction k generalizing n with
  | zero => rfl
  | succ k ih => simp [toLE, ih]

theorem leNat_toLE (k n : Nat) : leNat (toLE k n) = n % 256 ^ k := by
  induction k generalizing n with
  | zero => simp [toLE, leNat, Nat.mod_one]
  | succ k ih =>
    simp only [toLE, leNat, ih]
    have h1 : (UInt8.ofNat (n % 256)).toNat = n % 256 := by
      simp [UInt8.toNat_ofNat']
    rw [h1, Nat.pow_succ, Nat.mul_comm (256 ^ k) 256, Nat.mod_mul]

theorem leNat_lt (bs : Bytes) : leNat bs < 256 ^ bs.length := by
  induction bs with
  | nil => simp [leNat]
  | cons b bs ih =>
    simp only [leNat, List.length_cons, Nat.pow_succ]
    have := b.toNat_lt
    omega

theorem toLE_leNat (bs : Bytes) : toLE bs.length (leNat bs) = bs := by
  induction bs with
  | nil => rfl
  | cons b bs ih =>
    have hb := b.toNat_lt
    rw [List.length_cons, leNat, toLE, Nat.add_mul_mod_self_left, Nat.mod_eq_of_lt hb,
      Nat.add_mul_div_left _ _ (by decide), Nat.div_eq_of_lt hb, Nat.zero_add, ih, UInt8.ofNat_toNat]

theorem pow_two_eight (k : Nat) : 2 ^ (8 * k) = 256 ^ k := by
  rw [Nat.pow_mul]

theorem readN_eq_ok {n : Nat} {bs b rest : Bytes} :
    readN n bs = .ok (b, rest) ↔ b.length = n ∧ bs = b ++ rest := by
  simp only [readN, if_error_eq_ok, Except.ok.injEq, Prod.mk.injEq]
  constructor
  · rintro ⟨h, rfl, rfl⟩
    exact ⟨List.length_take_of_le (Nat.le_of_not_lt h), (List.take_append_drop n bs).symm⟩
  · rintro ⟨rfl, rfl⟩
    simp

theorem readN_append (n : Nat) (bs rest : Bytes) (h : bs.length = n) :
    readN n (bs ++ rest) = .ok (bs, rest) :=
  readN_eq_ok.mpr ⟨h, rfl⟩

theorem readIntLE_append (k : Nat) (b rest : Bytes) (h : b.length = k) :
    readIntLE k (b ++ rest) = .ok (toSigned k (leNat b), rest) := by
  rw [readIntLE, readN_append k b rest h]
  rfl

theorem readUIntLE_toLE (k n : Nat) (rest : Bytes) (h : n < 256 ^ k) :
    readUIntLE k (toLE k n ++ rest) = .ok (n, rest) := by
  simp [readUIntLE, readN_append _ _ _ (toLE_length k n), leNat_toLE, Nat.mod_eq_of_lt h]

theorem readIntLE_toLE (k n : Nat) (rest : Bytes) (h : n < 2 ^ (8 * k - 1)) :
    readIntLE k (toLE k n ++ rest) = .ok ((n : Int), rest) := by
  have hk : n < 256 ^ k :=
    pow_two_eight k ▸ Nat.lt_of_lt_of_le h (Nat.pow_le_pow_right (by decide) (Nat.sub_le _ 1))
  simp [readIntLE, readN_append _ _ _ (toLE_length k n), leNat_toLE, Nat.mod_eq_of_lt hk, toSigned, h]

theorem readUIntLE_cons (n : Nat) (rest : Bytes) (h : n < 256) :
    readUIntLE 1 (UInt8.ofNat n :: rest) = .ok (n, rest) := by
  have := readUIntLE_toLE 1 n rest (by omega)
  rwa [toLE, Nat.mod_eq_of_lt h] at this

theorem readUIntLE_len {k n : Nat} {bs rest : Bytes} (h : readUIntLE k bs = .ok (n, rest)) :
    rest.length + k = bs.length := by
  obtain ⟨⟨b, r⟩, h1, h⟩ := bind_eq_ok.mp h
  cases h
  obtain ⟨rfl, rfl⟩ := readN_eq_ok.mp h1
  rw [List.length_append, Nat.add_comm]

theorem readPackedLen_len {n : Nat} {bs rest : Bytes} (h : readPackedLen bs = .ok (n, rest)) :
    rest.length + 1 ≤ bs.length := by
  obtain ⟨⟨m, r⟩, h1, h2⟩ := bind_eq_ok.mp h
  have l1 := readUIntLE_len h1
  dsimp only at h2
  split at h2
  · have l2 := readUIntLE_len h2
    omega
  · cases h2
    omega

theorem readPackedLen_writePackedLen (n : Nat) (rest : Bytes) (h : n < 2 ^ 24) :
    readPackedLen (writePackedLen n ++ rest) = .ok (n, rest) := by
  unfold writePackedLen readPackedLen
  split
  · rename_i h1
    simp [readUIntLE_cons n rest (by omega), Nat.ne_of_lt h1]
  · have : readUIntLE 1 (255 :: (toLE 3 n ++ rest)) = .ok (255, toLE 3 n ++ rest) :=
      readUIntLE_cons 255 _ (by decide)
    simp [this, readUIntLE_toLE 3 n rest (by omega)]

theorem ofSigned_lt (k : Nat) (i : Int) : ofSigned k i < 256 ^ k := by
  unfold ofSigned
  rw [pow_two_eight]
  have hpos : (0 : Int) < ((256 ^ k : Nat) : Int) := by
    have : 0 < 256 ^ k := Nat.pow_pos (by decide)
    omega
  have h1 := Int.emod_lt_of_pos i hpos
  have h2 := Int.emod_nonneg i (Int.ne_of_gt hpos)
  omega

theorem toSigned_ofSigned (k : Nat) (hk : 0 < k) (i : Int)
    (h : -(2 ^ (8 * k - 1) : Nat) ≤ i ∧ i < (2 ^ (8 * k - 1) : Nat)) :
    toSigned k (ofSigned k i) = i := by
  have hp : 2 ^ (8 * k) = 2 * 2 ^ (8 * k - 1) := by
    rw [← Nat.pow_succ']
    congr 1
    omega
  unfold toSigned ofSigned
  rw [hp]
  generalize 2 ^ (8 * k - 1) = m at h ⊢
  have hx : 0 ≤ i % ((2 * m : Nat) : Int) := Int.emod_nonneg i (by omega)
  -- the round trip is the balanced remainder `Int.bmod`, the identity on the signed range
  have hb := Int.bmod_eq_of_le (n := i) (m := 2 * m) (by omega) (by omega)
  rw [Int.bmod_def, show (((2 * m : Nat) : Int) + 1) / 2 = (m : Int) by omega] at hb
  rw [Int.toNat_of_nonneg hx]
  simp only [Int.toNat_lt hx]
  exact hb

theorem unsigned_ofSigned (k : Nat) (i : Int) (h : 0 ≤ i ∧ i < (2 ^ (8 * k) : Nat)) :
    ((ofSigned k i : Nat) : Int) = i := by
  unfold ofSigned
  have : i % ((2 ^ (8 * k) : Nat) : Int) = i := Int.emod_eq_of_lt h.1 h.2
  rw [this]
  exact Int.toNat_of_nonneg h.1

end ReplayModel
