import ReplayModel.Codec
import ReplayProofs.Lemmas.Bytes
namespace ReplayModel

/-- Induction over the nested inductive `Ty` with a second motive for the field lists of
`fixedDict`: the functions of the codec come in pairs (`decode`/`decodeFields`, …), and so do
the facts about them. -/
theorem Ty.ind₂ {P : Ty → Prop} {Q : List (String × Ty) → Prop}
    (int : ∀ k s, P (.int k s)) (f32 : P .f32) (f64 : P .f64) (vec : ∀ n, P (.vec n))
    (blob : P .blob) (string : P .string) (python : P .python) (mailbox : P .mailbox)
    (array : ∀ e sz, P e → P (.array e sz))
    (fixedDict : ∀ fs an, Q fs → P (.fixedDict fs an))
    (userType : ∀ t, P t → P (.userType t))
    (nil : Q []) (cons : ∀ k t fs, P t → Q fs → Q ((k, t) :: fs)) : ∀ t, P t :=
  Ty.rec (motive_1 := P) (motive_2 := Q) (motive_3 := fun p => P p.2)
    int f32 f64 vec blob string python mailbox array fixedDict userType
    nil (fun (k, t) fs iht ihf => cons k t fs iht ihf) (fun _ _ ih => ih)

theorem Ty.ind {P : Ty → Prop}
    (int : ∀ k s, P (.int k s)) (f32 : P .f32) (f64 : P .f64) (vec : ∀ n, P (.vec n))
    (blob : P .blob) (string : P .string) (python : P .python) (mailbox : P .mailbox)
    (array : ∀ e sz, P e → P (.array e sz))
    (fixedDict : ∀ fs an, (∀ p ∈ fs, P p.2) → P (.fixedDict fs an))
    (userType : ∀ t, P t → P (.userType t)) : ∀ t, P t :=
  Ty.ind₂ (Q := fun fs => ∀ p ∈ fs, P p.2) int f32 f64 vec blob string python mailbox array fixedDict userType
    (fun _ hp => nomatch hp) (fun _ _ _ iht ihf => List.forall_mem_cons.mpr ⟨iht, ihf⟩)

theorem hasTy_int {k : Nat} {s : Bool} {v : Val} (h : hasTy (.int k s) v = true) :
    ∃ i, v = .int i ∧ 0 < k ∧
      if s then -(2 ^ (8 * k - 1) : Nat) ≤ i ∧ i < (2 ^ (8 * k - 1) : Nat) else 0 ≤ i ∧ i < (2 ^ (8 * k) : Nat) := by
  cases v with
  | int i =>
    obtain ⟨h1, h2⟩ := (Bool.and_eq_true _ _).mp h
    refine ⟨i, rfl, of_decide_eq_true h1, ?_⟩
    cases s
    all_goals exact of_decide_eq_true h2
  | _ => cases h

theorem hasTy_f32 {v : Val} (h : hasTy .f32 v = true) : ∃ b, v = .f32 b ∧ b < 2 ^ 32 := by
  cases v with
  | f32 b => exact ⟨b, rfl, of_decide_eq_true h⟩
  | _ => cases h

theorem hasTy_f64 {v : Val} (h : hasTy .f64 v = true) : ∃ b, v = .f64 b ∧ b < 2 ^ 64 := by
  cases v with
  | f64 b => exact ⟨b, rfl, of_decide_eq_true h⟩
  | _ => cases h

theorem hasTy_vec {n : Nat} {v : Val} (h : hasTy (.vec n) v = true) :
    ∃ xs, v = .vec xs ∧ xs.length = n ∧ ∀ x ∈ xs, x < 2 ^ 32 := by
  cases v with
  | vec xs =>
    obtain ⟨h1, h2⟩ := (Bool.and_eq_true _ _).mp h
    exact ⟨xs, rfl, of_decide_eq_true h1, fun x hx => of_decide_eq_true (List.all_eq_true.mp h2 x hx)⟩
  | _ => cases h

theorem hasTy_blob {v : Val} (h : hasTy .blob v = true) : ∃ b, v = .bytes b ∧ b.length < 2 ^ 24 := by
  cases v with
  | bytes b => exact ⟨b, rfl, of_decide_eq_true h⟩
  | _ => cases h

theorem hasTy_python {v : Val} (h : hasTy .python v = true) : ∃ b, v = .bytes b ∧ b.length < 2 ^ 24 := by
  cases v with
  | bytes b => exact ⟨b, rfl, of_decide_eq_true h⟩
  | _ => cases h

/-- a STRING value is what the reader makes of its payload: text if it is valid UTF-8, else bytes -/
theorem hasTy_string {v : Val} (h : hasTy .string v = true) : ∃ b, v = strOrBytes b ∧ b.length < 2 ^ 24 := by
  cases v with
  | str b =>
    obtain ⟨h1, h2⟩ := (Bool.and_eq_true _ _).mp h
    exact ⟨b, (if_pos h2).symm, of_decide_eq_true h1⟩
  | bytes b =>
    obtain ⟨h1, h2⟩ := (Bool.and_eq_true _ _).mp h
    exact ⟨b, (if_neg (by simpa using h2)).symm, of_decide_eq_true h1⟩
  | _ => cases h

theorem hasTy_strOrBytes {b : Bytes} (hb : b.length < 2 ^ 24) : hasTy .string (strOrBytes b) = true := by
  unfold strOrBytes
  split
  · exact (Bool.and_eq_true _ _).mpr ⟨decide_eq_true hb, ‹_›⟩
  · exact (Bool.and_eq_true _ _).mpr ⟨decide_eq_true hb, by simpa using ‹¬utf8Valid b = true›⟩

theorem encodeWire_strOrBytes (h : Nat) (b : Bytes) :
    encodeWire h .string (strOrBytes b) = writePackedLen b.length ++ b := by
  unfold strOrBytes
  split <;> rfl

theorem hasTy_mailbox {v : Val} (h : hasTy .mailbox v = true) :
    ∃ ip p, v = .mailbox ip p ∧ ip.length = 4 ∧ p < 65536 := by
  cases v with
  | mailbox ip p =>
    obtain ⟨h1, h2⟩ := (Bool.and_eq_true _ _).mp h
    exact ⟨ip, p, rfl, of_decide_eq_true h1, of_decide_eq_true h2⟩
  | _ => cases h

theorem hasTy_array {e : Ty} {sz : Option Nat} {v : Val} (h : hasTy (.array e sz) v = true) :
    ∃ vs, v = .list vs ∧ (match sz with | some n => vs.length = n | none => vs.length < 256) ∧
      ∀ x ∈ vs, hasTy e x = true := by
  cases v with
  | list vs =>
    cases sz
    all_goals
      obtain ⟨h1, h2⟩ := (Bool.and_eq_true _ _).mp h
      exact ⟨vs, rfl, of_decide_eq_true h1, List.all_eq_true.mp h2⟩
  | _ =>
    cases sz
    all_goals cases h

theorem hasTy_fixedDict {fs : List (String × Ty)} {an : Bool} {v : Val} (h : hasTy (.fixedDict fs an) v = true) :
    an = true ∧ v = .none ∨ ∃ vs, v = .dict vs ∧ hasTyFields fs vs = true := by
  cases v with
  | none =>
    cases an
    · cases h
    · exact .inl ⟨rfl, rfl⟩
  | dict vs =>
    cases an
    all_goals exact .inr ⟨vs, rfl, h⟩
  | _ =>
    cases an
    all_goals cases h

theorem hasTyFields_nil {vs : List (String × Val)} (h : hasTyFields [] vs = true) : vs = [] := by
  cases vs with
  | nil => rfl
  | cons _ _ => cases h

theorem hasTyFields_cons {k : String} {t : Ty} {fs : List (String × Ty)} {vs : List (String × Val)}
    (h : hasTyFields ((k, t) :: fs) vs = true) :
    ∃ v ws, vs = (k, v) :: ws ∧ hasTy t v = true ∧ hasTyFields fs ws = true := by
  cases vs with
  | nil => cases h
  | cons p ws =>
    obtain ⟨h12, h3⟩ := (Bool.and_eq_true _ _).mp h
    obtain ⟨h1, h2⟩ := (Bool.and_eq_true _ _).mp h12
    exact ⟨p.2, ws, by rw [eq_of_beq h1], h2, h3⟩

theorem decode_fixedDict_allowNone (h : Nat) (fs : List (String × Ty)) (bs : Bytes) :
    decode h (.fixedDict fs true) bs =
      (match bs with
      | 0 :: r => .ok (.none, r)
      | 1 :: r => (do let (vs, r') ← decodeFields h fs r; pure (.dict vs, r'))
      | _ => (do let (vs, r') ← decodeFields h fs bs; pure (.dict vs, r'))) := rfl

theorem repeatRd_flatMap (f : Bytes → Except Err (Val × Bytes)) (enc : Val → Bytes)
    (vs : List Val) (rest : Bytes)
    (hf : ∀ v ∈ vs, ∀ r, f (enc v ++ r) = .ok (v, r)) :
    repeatRd f vs.length (vs.flatMap enc ++ rest) = .ok (vs, rest) := by
  induction vs with
  | nil => rfl
  | cons v vs ih =>
    obtain ⟨hv, hf⟩ := List.forall_mem_cons.mp hf
    simp [repeatRd, hv, ih hf]

theorem readF32s_flatMap (xs : List Nat) (rest : Bytes) (hx : ∀ x ∈ xs, x < 2 ^ 32) :
    readF32s xs.length (xs.flatMap (toLE 4) ++ rest) = .ok (xs, rest) := by
  induction xs with
  | nil => rfl
  | cons x xs ih =>
    obtain ⟨h, hx⟩ := List.forall_mem_cons.mp hx
    simp [readF32s, readUIntLE_toLE 4 x _ h, ih hx]

theorem readF32s_len {n : Nat} {bs rest : Bytes} {xs : List Nat} (h : readF32s n bs = .ok (xs, rest)) :
    rest.length + 4 * n = bs.length := by
  induction n generalizing bs xs with
  | zero =>
    cases h
    rfl
  | succ n ih =>
    obtain ⟨⟨x, r⟩, h1, h⟩ := bind_eq_ok.mp h
    obtain ⟨⟨ys, r'⟩, h2, h⟩ := bind_eq_ok.mp h
    cases h
    have l1 := readUIntLE_len h1
    have l2 := ih h2
    omega

theorem repeatRd_len {f : Bytes → Except Err (Val × Bytes)} {m : Nat}
    (hf : ∀ bs rest v, f bs = .ok (v, rest) → rest.length + m ≤ bs.length) {n : Nat} {bs rest : Bytes}
    {vs : List Val} (h : repeatRd f n bs = .ok (vs, rest)) : rest.length + n * m ≤ bs.length := by
  induction n generalizing bs vs with
  | zero =>
    cases h
    simp
  | succ n ih =>
    obtain ⟨⟨v, r⟩, h1, h⟩ := bind_eq_ok.mp h
    obtain ⟨⟨ws, r'⟩, h2, h⟩ := bind_eq_ok.mp h
    cases h
    have l1 := hf _ _ _ h1
    have l2 := ih h2
    rw [Nat.succ_mul]
    omega

end ReplayModel
