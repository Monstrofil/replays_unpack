/-
Lemmas that belong to no layer of the model: the `Except` monad as the readers use it, and
association lists with Python `dict` semantics.
-/
namespace ReplayModel

section
variable {ε α β : Type}

@[simp] theorem ok_bind (a : α) (f : α → Except ε β) : (Except.ok a >>= f) = f a := rfl
@[simp] theorem error_bind (e : ε) (f : α → Except ε β) : (Except.error e >>= f) = .error e := rfl
@[simp] theorem pure_eq_ok (a : α) : (pure a : Except ε α) = .ok a := rfl

theorem bind_eq_ok {x : Except ε α} {f : α → Except ε β} {b : β} :
    x >>= f = .ok b ↔ ∃ a, x = .ok a ∧ f a = .ok b := by
  cases x <;> simp

theorem if_eq_ok {c : Prop} [Decidable c] {x : Except ε α} {e : ε} {b : α} :
    (if c then x else .error e) = .ok b ↔ c ∧ x = .ok b := by
  split <;> simp_all

theorem if_error_bind {c : Prop} [Decidable c] (e : ε) (a : α) (f : α → Except ε β) :
    ((if c then .error e else .ok a) >>= f) = if c then .error e else f a := by
  split <;> rfl

/-- the guard of a reader (`if short then raise`) -/
theorem if_error_eq_ok {c : Prop} [Decidable c] {x : Except ε α} {e : ε} {b : α} :
    (if c then .error e else x) = .ok b ↔ ¬c ∧ x = .ok b := by
  split <;> simp_all

end

/-! ### association lists

`dictSet`, `World.put`, `isetD` and the roster merge are all `upsert` (by `rfl`), their lookups
(and `payloadGet?`, `Dialect.kindOf`) `lookup`; the two laws below are proved once for all of them. -/

section
variable {κ α β : Type} [BEq κ] [LawfulBEq κ]

/-- `d[k] = g(d.get(k))`: the value is replaced where the key stands, or appended -/
def upsert (l : List (κ × α)) (k : κ) (g : Option α → α) : List (κ × α) :=
  if l.any (·.1 == k) then l.map (fun p => if p.1 == k then (k, g (some p.2)) else p) else l ++ [(k, g none)]

def lookup (l : List (κ × α)) (k : κ) : Option α := (l.find? (·.1 == k)).map (·.2)

theorem find?_update (l : List (κ × α)) (k k' : κ) (f : α → α) :
    (l.map fun p => if p.1 == k then (k, f p.2) else p).find? (·.1 == k') =
      (l.find? (·.1 == k')).map fun p => if p.1 == k then (k, f p.2) else p := by
  rw [List.find?_map]
  congr 2
  funext p
  by_cases hp : p.1 == k
  · simp [eq_of_beq hp]
  · simp [hp]

theorem lookup_upsert_same (l : List (κ × α)) (k : κ) (g : Option α → α) :
    lookup (upsert l k g) k = some (g (lookup l k)) := by
  unfold upsert lookup
  split
  · rename_i h
    rw [find?_update l k k (fun a => g (some a))]
    obtain ⟨p, hp⟩ := Option.isSome_iff_exists.mp (List.find?_isSome.mpr (List.any_eq_true.mp h))
    simp [hp, List.find?_some hp]
  · rename_i h
    have hn : l.find? (·.1 == k) = none := List.find?_eq_none.mpr fun x hx hc => h (List.any_eq_true.mpr ⟨x, hx, hc⟩)
    simp [List.find?_append, hn]

theorem lookup_upsert_other (l : List (κ × α)) (k k' : κ) (g : Option α → α) (hne : k' ≠ k) :
    lookup (upsert l k g) k' = lookup l k' := by
  have hk : (k == k') = false := by simpa using Ne.symm hne
  unfold upsert lookup
  split
  · rw [find?_update l k k' (fun a => g (some a))]
    cases hf : l.find? (·.1 == k') with
    | none => rfl
    | some p =>
      have hp := List.find?_some hf
      simp [eq_of_beq hp, hne]
  · rw [List.find?_append]
    cases l.find? (·.1 == k') <;> simp [hk]

theorem upsert_keys (l : List (κ × α)) (k : κ) (g : Option α → α) :
    (upsert l k g).map (·.1) = if l.any (·.1 == k) then l.map (·.1) else l.map (·.1) ++ [k] := by
  unfold upsert
  split
  · rw [List.map_map]
    refine List.map_congr_left fun p _ => ?_
    by_cases hp : p.1 == k
    · simp [eq_of_beq hp]
    · simp [hp]
  · simp

/-- keys must be unique: `upsert` overwrites every entry under the key, not only the one
`lookup` finds -/
theorem upsert_stored (l : List (κ × α)) (k : κ) (v : α)
    (hn : (l.map (·.1)).Nodup) (h : lookup l k = some v) : upsert l k (fun _ => v) = l := by
  unfold lookup at h
  obtain ⟨p, hf, rfl⟩ := Option.map_eq_some_iff.mp h
  have hb : (p.1 == k) = true := List.find?_some (p := fun x : κ × α => x.1 == k) hf
  have hk : p.1 = k := eq_of_beq hb
  have hmem := List.mem_of_find?_eq_some hf
  have hpw : l.Pairwise fun a b => a.1 = b.1 → a = b :=
    (List.pairwise_map.mp hn).imp fun hne he => absurd he hne
  have huniq := List.Pairwise.forall_of_forall_of_flip (fun _ _ _ => rfl) hpw (hpw.imp fun h he => (h he.symm).symm)
  unfold upsert
  rw [if_pos (List.any_eq_true.mpr ⟨p, hmem, hb⟩)]
  refine (List.map_congr_left fun q hq => ?_).trans (List.map_id' l)
  split
  · next hq' => rw [huniq hq hmem ((eq_of_beq hq').trans hk.symm), ← hk]
  · rfl

theorem upsert_nodup (l : List (κ × α)) (k : κ) (g : Option α → α)
    (hn : (l.map (·.1)).Nodup) : ((upsert l k g).map (·.1)).Nodup := by
  rw [upsert_keys]
  split
  · exact hn
  · next hk =>
    rw [List.nodup_append]
    refine ⟨hn, List.pairwise_singleton _ _, fun a ha b hb hab => hk ?_⟩
    obtain ⟨x, hx, rfl⟩ := List.mem_map.mp ha
    exact List.any_eq_true.mpr ⟨x, hx, beq_iff_eq.mpr (hab.trans (List.mem_singleton.mp hb))⟩

theorem find?_perm (f : β → κ) (k : κ) {l l' : List β} (hp : l.Perm l') (hnd : (l.map f).Nodup) :
    l.find? (f · == k) = l'.find? (f · == k) := by
  induction hp with
  | nil => rfl
  | cons x _ ih =>
    rw [List.map_cons, List.nodup_cons] at hnd
    simp only [List.find?_cons, ih hnd.2]
  | swap x y l =>
    simp only [List.map_cons, List.nodup_cons, List.mem_cons, not_or] at hnd
    simp only [List.find?_cons]
    by_cases hx : f x == k <;> by_cases hy : f y == k <;> simp [hx, hy]
    exact absurd ((eq_of_beq hy).trans (eq_of_beq hx).symm) hnd.1.1
  | trans h1 _ ih1 ih2 => exact (ih1 hnd).trans (ih2 ((h1.map f).nodup_iff.mp hnd))

end
end ReplayModel
