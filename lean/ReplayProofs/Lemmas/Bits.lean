/-
The bit reader in terms of `pending`, the bits still to be delivered: `nextBit` takes the head,
`get` a prefix (`get_append`), and `BitReader.Inv bs` is kept, which ties `getRest` to the number
of pending bits (`getRest_of_inv`).
-/
import ReplayModel.Bits
import ReplayProofs.Lemmas.Basic
namespace ReplayModel

@[simp] theorem bitsOfByte_length (b : UInt8) : (bitsOfByte b).length = 8 := rfl

theorem pending_length (r : BitReader) :
    r.pending.length = r.cache.length + 8 * r.stream.length := by
  simp [BitReader.pending, List.length_flatMap, List.map_const', Nat.mul_comm]

/-- The reader state is consistent with having consumed bits of `bs`: the byte stream
is a suffix of `bs` and the cache holds fewer than 8 bits. -/
def BitReader.Inv (bs : Bytes) (r : BitReader) : Prop :=
  (∃ j, j ≤ bs.length ∧ r.stream = bs.drop j) ∧ r.cache.length < 8

theorem ofBytes_inv (bs : Bytes) : (BitReader.ofBytes bs).Inv bs :=
  ⟨⟨0, Nat.zero_le _, rfl⟩, Nat.zero_lt_succ 7⟩

theorem getRest_of_inv (r : BitReader) (bs : Bytes) (h : r.Inv bs) :
    r.getRest = bs.drop (bs.length - r.pending.length / 8) := by
  obtain ⟨⟨j, hj, hs⟩, hc⟩ := h
  rw [BitReader.getRest, pending_length, Nat.add_mul_div_left _ _ (Nat.zero_lt_succ 7), Nat.div_eq_of_lt hc,
    Nat.zero_add, hs, List.length_drop, Nat.sub_sub_self hj]

theorem nextBit_pending (r : BitReader) (b : Bool) (rest : List Bool) (hp : r.pending = b :: rest) :
    ∃ r', r.nextBit = .ok (b, r') ∧ r'.pending = rest ∧ ∀ bs, r.Inv bs → r'.Inv bs := by
  obtain ⟨stream, cache⟩ := r
  cases cache with
  | cons c cs =>
    obtain ⟨rfl, rfl⟩ := List.cons.inj hp
    exact ⟨⟨stream, cs⟩, rfl, rfl, fun bs h => ⟨h.1, Nat.lt_of_succ_lt h.2⟩⟩
  | nil =>
    cases stream with
    | nil => cases hp
    | cons x xs =>
      -- `bitsOfByte x` reduces to a list of eight bits, so the `match` on it in `nextBit` computes
      obtain ⟨rfl, rfl⟩ := List.cons.inj hp
      refine ⟨⟨xs, (bitsOfByte x).tail⟩, rfl, rfl, fun bs h => ?_⟩
      obtain ⟨⟨j, _, hs⟩, _⟩ := h
      have hl := congrArg List.length hs
      rw [List.length_drop, List.length_cons] at hl
      refine ⟨⟨j + 1, Nat.lt_of_sub_eq_succ hl.symm, ?_⟩, Nat.lt_succ_self 7⟩
      rw [← List.drop_drop, ← hs]
      rfl

theorem nextBit_exhausted (r : BitReader) (hp : r.pending = []) : r.nextBit = .error .other := by
  obtain ⟨stream, cache⟩ := r
  cases cache with
  | cons c cs => cases hp
  | nil =>
    cases stream with
    | nil => rfl
    | cons x xs => cases hp

/-- `getAcc` reads a prefix of the pending bits, folding them onto `acc` as `bitsVal` does -/
theorem getAcc_append (bits : List Bool) (acc : Nat) (r : BitReader) (tail : List Bool)
    (hp : r.pending = bits ++ tail) :
    ∃ r', r.getAcc bits.length acc = .ok (bits.foldl (fun a b => 2 * a + (if b then 1 else 0)) acc, r') ∧
      r'.pending = tail ∧ ∀ bs, r.Inv bs → r'.Inv bs := by
  induction bits generalizing acc r with
  | nil => exact ⟨r, rfl, hp, fun _ h => h⟩
  | cons b bits ih =>
    obtain ⟨r1, h1, h2, h3⟩ := nextBit_pending r b (bits ++ tail) hp
    obtain ⟨r', g1, g2, g3⟩ := ih (2 * acc + (if b then 1 else 0)) r1 h2
    refine ⟨r', ?_, g2, fun bs h => g3 bs (h3 bs h)⟩
    rw [List.length_cons, BitReader.getAcc, h1, ok_bind]
    exact g1

theorem get_append (r : BitReader) (bits tail : List Bool) (hp : r.pending = bits ++ tail) :
    ∃ r', r.get bits.length = .ok (bitsVal bits, r') ∧ r'.pending = tail ∧ ∀ bs, r.Inv bs → r'.Inv bs :=
  getAcc_append bits 0 r tail hp

theorem get_take (r : BitReader) (w : Nat) (h : w ≤ r.pending.length) :
    ∃ r', r.get w = .ok (bitsVal (r.pending.take w), r') ∧ r'.pending = r.pending.drop w ∧
      ∀ bs, r.Inv bs → r'.Inv bs := by
  have := get_append r (r.pending.take w) (r.pending.drop w) (List.take_append_drop ..).symm
  rwa [List.length_take_of_le h] at this

theorem getAcc_exhausted (n acc : Nat) (r : BitReader) (hn : r.pending.length < n) :
    r.getAcc n acc = .error .other := by
  induction n generalizing acc r with
  | zero => exact absurd hn (Nat.not_lt_zero _)
  | succ n ih =>
    match hp : r.pending with
    | [] => rw [BitReader.getAcc, nextBit_exhausted r hp, error_bind]
    | b :: rest =>
      obtain ⟨r1, h1, h2, _⟩ := nextBit_pending r b rest hp
      rw [hp] at hn
      rw [BitReader.getAcc, h1, ok_bind]
      exact ih _ r1 (by rw [h2]; exact Nat.lt_of_succ_lt_succ hn)

end ReplayModel
