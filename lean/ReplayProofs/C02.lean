/-
C02 — packet framing: ordered, exactly-once, isolated, terminating.
-/
import ReplayModel.Frame
import ReplayModel.World
import ReplayModel.Play
import ReplayProofs.Lemmas.Bytes
import ReplayProofs.Lemmas.Play
import ReplayModel.Pipeline
import ReplayProofs.C01
namespace ReplayModel.C02
open ReplayModel

/-- a packet as the stream encodes it -/
structure Raw where
  type : Nat
  time : Nat
  payload : Bytes
  deriving Repr

def Raw.ok (r : Raw) : Prop := r.type < 2 ^ 32 ∧ r.time < 2 ^ 32 ∧ r.payload.length < 2 ^ 32

def Raw.encode (r : Raw) : Bytes := encodeNetPacket r.type r.time r.payload

def Raw.packet (r : Raw) : NetPacket :=
  { type := r.type, time := r.time, payload := r.payload, size := r.payload.length }

theorem readNetPacket_eq (bs : Bytes) : readNetPacket bs = (do
    let (size, r) ← readUIntLE 4 bs
    let (ty, r) ← readUIntLE 4 r
    let (tm, r) ← readUIntLE 4 r
    pure ({ type := ty, time := tm, payload := r.take size, size := size }, r.drop size)) := by
  simp only [readNetPacket, readUIntLE, readN, if_error_bind, pure_eq_ok, List.isEmpty_iff,
    List.drop_eq_nil_iff, List.length_drop]
  by_cases h : bs.length ≤ 11
  · rw [if_pos h]
    symm
    simp only [ite_eq_left_iff]
    omega
  · rw [if_neg h, if_neg (by omega), if_neg (by omega), if_neg (by omega)]
    simp only [List.drop_drop]

theorem readNetPacket_short {bs : Bytes} (h : bs.length < 12) : readNetPacket bs = .error .short :=
  if_pos (List.isEmpty_iff.mpr (List.drop_eq_nil_iff.mpr (by omega)))

theorem readNetPacket_len {bs rest : Bytes} {p : NetPacket} (h : readNetPacket bs = .ok (p, rest)) :
    rest.length + 12 ≤ bs.length := by
  obtain ⟨hne, h⟩ := if_error_eq_ok.mp h
  cases h
  have : ¬bs.length ≤ 11 := fun hle => hne (List.isEmpty_iff.mpr (List.drop_eq_nil_iff.mpr hle))
  simp only [List.length_drop]
  omega

theorem readNetPacket_header (size ty tm : Nat) (body : Bytes) (hs : size < 2 ^ 32) (ht : ty < 2 ^ 32) (htm : tm < 2 ^ 32) :
    readNetPacket (toLE 4 size ++ toLE 4 ty ++ toLE 4 tm ++ body) =
      .ok ({ type := ty, time := tm, payload := body.take size, size := size }, body.drop size) := by
  simp only [readNetPacket_eq, List.append_assoc, readUIntLE_toLE 4 _ _ hs, readUIntLE_toLE 4 _ _ ht,
    readUIntLE_toLE 4 _ _ htm, ok_bind, pure_eq_ok]

/-- one packet: header and payload come back exactly, the rest is untouched -/
theorem read_encode (r : Raw) (h : r.ok) (rest : Bytes) :
    readNetPacket (r.encode ++ rest) = .ok (r.packet, rest) := by
  have := readNetPacket_header r.payload.length r.type r.time (r.payload ++ rest) h.2.2 h.1 h.2.1
  rw [List.take_left' rfl, List.drop_left' rfl, ← List.append_assoc] at this
  exact this

theorem parse_nil : parsePackets [] = ([], .exhausted) := by
  rw [parsePackets]
  rfl

theorem parse_cons (bs : Bytes) (p : NetPacket) (rest : Bytes) (h : readNetPacket bs = .ok (p, rest)) :
    parsePackets bs = (p :: (parsePackets rest).1, (parsePackets rest).2) := by
  have hne : bs ≠ [] := by
    rintro rfl
    cases h
  rw [parsePackets]
  simp only [hne, dite_false]
  split
  · rename_i e heq
    rw [h] at heq
    cases heq
  · rename_i p' rest' heq
    rw [h] at heq
    cases heq
    rfl

theorem parse_short (bs : Bytes) (e : Err) (hne : bs ≠ []) (h : readNetPacket bs = .error e) :
    parsePackets bs = ([], .headerShort) := by
  rw [parsePackets]
  simp only [hne, dite_false]
  split
  · rfl
  · rename_i heq
    rw [h] at heq
    cases heq

/-- **Framing is exact, whatever follows**: encoded packets in front of any bytes `tail` are
framed off exactly, in order, each once; the loop then treats `tail` as if it stood alone. -/
theorem frames_append (rs : List Raw) (h : ∀ r ∈ rs, r.ok) (tail : Bytes) :
    parsePackets (rs.flatMap Raw.encode ++ tail) =
      (rs.map Raw.packet ++ (parsePackets tail).1, (parsePackets tail).2) := by
  induction rs with
  | nil => rfl
  | cons r rs ih =>
    obtain ⟨hr, h⟩ := List.forall_mem_cons.mp h
    rw [List.flatMap_cons, List.append_assoc, parse_cons _ _ _ (read_encode r hr _), ih h]
    rfl

/-- **Framing is exact**: the packets of a concatenation of encoded packets are exactly
those packets — same type, timestamp and payload bytes, in stream order, each once — and
the loop ends by exhaustion. Any number of packets, payload sizes 0 … 2^32−1. -/
theorem frames_encode (rs : List Raw) (h : ∀ r ∈ rs, r.ok) :
    parsePackets (rs.flatMap Raw.encode) = (rs.map Raw.packet, .exhausted) := by
  simpa [parse_nil] using frames_append rs h []

/-- a stream cut inside the last packet's header: the complete packets, then `struct.error` -/
theorem frames_truncated_header (rs : List Raw) (h : ∀ r ∈ rs, r.ok) (tail : Bytes)
    (ht : 0 < tail.length ∧ tail.length < 12) :
    parsePackets (rs.flatMap Raw.encode ++ tail) = (rs.map Raw.packet, .headerShort) := by
  rw [frames_append rs h, parse_short tail .short (List.ne_nil_of_length_pos ht.1) (readNetPacket_short ht.2),
    List.append_nil]

/-- a stream cut inside the last packet's payload: that packet is still delivered, with the
bytes that are there, and the loop ends normally -/
theorem frames_truncated_payload (rs : List Raw) (h : ∀ r ∈ rs, r.ok) (last : Raw) (hl : last.ok) (k : Nat)
    (hk : k < last.payload.length) :
    parsePackets (rs.flatMap Raw.encode ++ (toLE 4 last.payload.length ++ toLE 4 last.type ++ toLE 4 last.time
        ++ last.payload.take k)) =
      (rs.map Raw.packet ++ [{ type := last.type, time := last.time, payload := last.payload.take k,
                               size := last.payload.length }], .exhausted) := by
  have hr := readNetPacket_header last.payload.length last.type last.time (last.payload.take k) hl.2.2 hl.1 hl.2.1
  have hlen : (last.payload.take k).length ≤ last.payload.length := by
    rw [List.length_take]
    omega
  rw [List.take_of_length_le hlen, List.drop_of_length_le hlen] at hr
  rw [frames_append rs h, parse_cons _ _ _ hr, parse_nil]

/-- termination, quantitatively: every packet consumes at least its 12-byte header -/
theorem parse_bound (bs : Bytes) : 12 * (parsePackets bs).1.length ≤ bs.length := by
  induction bs using parsePackets.induct with
  | case1 =>
    rw [parse_nil]
    exact Nat.le_refl _
  | case2 bs hne e he =>
    rw [parse_short bs e hne he]
    exact Nat.zero_le _
  | case3 bs hne p rest hp _ ps e _ ih =>
    rw [parse_cons bs p rest hp]
    have := readNetPacket_len hp
    simp only [List.length_cons]
    omega

/-- **Unmapped type: no effect, wherever it occurs** — for every mapping table, every
payload, every world. -/
theorem unmapped_noop (jsonOk : Bytes → Bool) (cfg : Config) (w : World) (np : NetPacket)
    (h : cfg.dialect.kindOf np.type = none) : stepNet jsonOk cfg w np = ok w := by
  unfold stepNet
  rw [h]

/-- mapped kinds the players ignore (once their constructor accepted the payload) -/
theorem ignored_noop (cfg : Config) (w : World) :
    (∀ id f, step cfg w (.entityControl id f) = ok w) ∧ (∀ v, step cfg w (.version v) = ok w) ∧
    (∀ raw, step cfg w (.battleStats raw) = ok w) := by
  refine ⟨fun id f => ?_, fun v => ?_, fun raw => ?_⟩
  all_goals
    unfold step
    cases cfg.dialect.game <;> rfl

/-- the wowp player acts on BasePlayerCreate only -/
theorem wowp_ignores (cfg : Config) (w : World) (p : Packet) (hg : cfg.dialect.game = .wowp)
    (hp : ∀ id ty v, p ≠ .basePlayerCreate id ty v) : step cfg w p = ok w := by
  unfold step
  rw [hg]
  cases p with
  | basePlayerCreate id ty v => exact absurd rfl (hp id ty v)
  | _ => rfl

/-- **Insertion of unmapped packets at any positions is invisible**: playing a packet list
gives the same world and the same exception (up to its packet number) as playing it without
the packets of unmapped type. -/
theorem play_filter (jsonOk : Bytes → Bool) (cfg : Config) (strict : Bool) (ps : List NetPacket) :
    ∀ (w : World) (i j : Nat) (f g : List (Nat × Err)),
      (playPackets jsonOk cfg strict w i ps f).1 =
        (playPackets jsonOk cfg strict w j (ps.filter (fun np => (cfg.dialect.kindOf np.type).isSome)) g).1 ∧
      ((playPackets jsonOk cfg strict w i ps f).2.1).map (·.2) =
        ((playPackets jsonOk cfg strict w j (ps.filter (fun np => (cfg.dialect.kindOf np.type).isSome)) g).2.1).map (·.2) := by
  induction ps with
  | nil => intro w i j f g; exact ⟨rfl, rfl⟩
  | cons np rest ih =>
    intro w i j f g
    cases hk : cfg.dialect.kindOf np.type with
    | none =>
      have hs := unmapped_noop jsonOk cfg w np hk
      simp only [List.filter_cons, hk, Option.isSome_none, Bool.false_eq_true, if_false]
      rw [playPackets_cons_ok (by rw [hs]), hs]
      exact ih w (i + 1) j f g
    | some k =>
      simp only [List.filter_cons, hk, Option.isSome_some, if_true]
      cases hr : (stepNet jsonOk cfg w np).err with
      | none =>
        rw [playPackets_cons_ok hr, playPackets_cons_ok hr]
        exact ih _ (i + 1) (j + 1) f g
      | some e =>
        rw [playPackets_cons_err hr, playPackets_cons_err hr]
        cases strict
        · exact ih _ (i + 1) (j + 1) _ _
        · exact ⟨rfl, rfl⟩

/-- Non-vacuity: two real packets survive the round trip. -/
example : parsePackets ((⟨7, 0x3f800000, [1, 2, 3]⟩ : Raw).encode ++ (⟨0x99, 0, []⟩ : Raw).encode)
    = ([⟨7, 0x3f800000, [1, 2, 3], 3⟩, ⟨0x99, 0, [], 0⟩], .exhausted) := by
  have := frames_encode [⟨7, 0x3f800000, [1, 2, 3]⟩, ⟨0x99, 0, []⟩] (by
    intro r hr
    simp only [List.mem_cons, List.mem_nil_iff, or_false] at hr
    rcases hr with rfl | rfl <;> exact ⟨by decide, by decide, by decide⟩)
  simpa [Raw.packet] using this

/-- **From the file to the dialect, end to end.** A file written around a stream of encoded
packets (any block cipher pair with `D ∘ E = id`, any compressor `inflate` inverts, any
supported version) is read, un-chained, inflated, framed and played so that exactly those
packets — same types, payload bytes and order, each once — are what the player folds over;
the lenient result is returned with `hidden` present and no error. Composes `C01.read_write`,
`frames_encode` and the play loop; nothing between the layers is lost or re-ordered. -/
theorem getInfo_written (env : Env) (E : Bytes → Bytes) (ext : String) (game : GameId)
    (engine : Bytes) (extra : List (Option Bytes)) (pre : Bytes) (blocks : List Bytes) (rs : List Raw)
    (vs : String) (sel : Selection)
    (hext : gameOfExt ext = some game)
    (hD : ∀ b, b.length = 8 → env.D (E b) = b) (hE : ∀ b, b.length = 8 → (E b).length = 8)
    (hinf : env.inflate blocks.flatten = some (rs.flatMap Raw.encode))
    (heng : engine.length < 2 ^ 31) (hcount : extra.length + 1 < 2 ^ 31) (hx : ∀ b ∈ extra, C01.blockOK b)
    (hpre : pre.length = 8) (h8 : ∀ b ∈ blocks, b.length = 8) (hrs : ∀ r ∈ rs, r.ok)
    (hv : env.versionOf game engine = some vs) (hs : selectVersion env.bundled game vs = .ok sel) :
    getInfo env false ext (writeContainer E engine extra pre blocks) =
      .returns ⟨game, engine, extra, rs.flatMap Raw.encode⟩
        (some { world := (playPackets env.jsonOk (configOf env game sel) false {} 0 (rs.map Raw.packet) []).1,
                ending := .finished,
                failed := (playPackets env.jsonOk (configOf env game sel) false {} 0 (rs.map Raw.packet) []).2.2 })
        none := by
  have hr := C01.read_write E env.D env.inflate ext game engine extra pre blocks _ hext hD hE hinf heng hcount hx hpre h8
  have hn := playPackets_lenient_none (jsonOk := env.jsonOk) (cfg := configOf env game sel) (rs.map Raw.packet) {} 0 []
  simp only [getInfo, hr, hv, hs, play, frames_encode rs hrs, hn, endingOf]

/-- the time field of a packet is carried along, never interpreted: handling does not depend on it
(any 32 bits: NaN, infinities, negative values) -/
theorem stepNet_time_irrelevant (jsonOk : Bytes → Bool) (cfg : Config) (w : World) (np : NetPacket) (t : Nat) :
    stepNet jsonOk cfg w { np with time := t } = stepNet jsonOk cfg w np := rfl

end ReplayModel.C02
