/-
C08 — entity pose follows the position packets addressed to it.
-/
import ReplayModel.World
import ReplayProofs.Lemmas.Step
import ReplayProofs.C05
import ReplayProofs.Lemmas.Bytes
namespace ReplayModel.C08
open ReplayModel

def poseOf (e : Entity) (k : String) : Option Val := dictGet? e.volatile k

theorem withVol_nil (e : Entity) : e.withVol [] = e := rfl

theorem withVol_cons (e : Entity) (k : String) (v : Val) (rest : List (String × Val)) :
    e.withVol ((k, v) :: rest) = ({ e with volatile := dictSet e.volatile k v } : Entity).withVol rest := rfl

/-- after `setPose` the four components are the packet's, whatever they were before -/
theorem setPose_reads (e : Entity) (p : Pose) :
    poseOf (setPose e p) "position" = some (.vec p.pos) ∧ poseOf (setPose e p) "yaw" = some (.f32 p.yaw) ∧
    poseOf (setPose e p) "pitch" = some (.f32 p.pitch) ∧ poseOf (setPose e p) "roll" = some (.f32 p.roll) := by
  unfold setPose poseOf
  simp [withVol_cons, withVol_nil, dictGet_dictSet_same, dictGet_dictSet_other]

/-- only the pose changes -/
theorem setPose_rest (e : Entity) (p : Pose) :
    (setPose e p).client = e.client ∧ (setPose e p).base = e.base ∧ (setPose e p).cell = e.cell ∧
    (setPose e p).id = e.id := by
  unfold setPose Entity.withVol
  exact ⟨rfl, rfl, rfl, rfl⟩

/-- **Position packet**: a known entity takes exactly the packet's pose; an unknown id is an
error that changes nothing. -/
theorem position_spec (w : World) (id : Int) (pose : Pose) (hwf : w.WF) :
    (∀ e, w.get? id = some e →
      (stepPosition w id pose).err = none ∧ (stepPosition w id pose).world.get? id = some (setPose e pose)) ∧
    (w.get? id = none → (stepPosition w id pose) = fail w .unknownEntity) := by
  constructor
  · intro e he
    unfold stepPosition
    simp only [he]
    exact ⟨trivial, World.get_put_got w hwf he (setPose_id e pose)⟩
  · intro hn
    unfold stepPosition
    simp [hn]

/-- a newly created entity has the definition's defaults: position (0,0,0), angles 0.0 -/
theorem pose_default (m : Masks) (id : Int) (d : EntityDef) :
    (Entity.new m id d).volatile = defaultVolatile d.volatile := rfl

/-- **Own-player position, the three cases stated outright.** -/
theorem player_position_set (w : World) (id1 : Int) (pose : Pose) (e : Entity) (hwf : w.WF)
    (h1 : id1 ≠ 0) (he : w.get? id1 = some e) :
    (stepPlayerPosition w id1 0 pose).err = none ∧
    (stepPlayerPosition w id1 0 pose).world.get? id1 = some (setPose e pose) := by
  unfold stepPlayerPosition
  have hb : (id1 != 0) = true := by simpa using h1
  simp only [bne_self_eq_false, Bool.false_eq_true, if_false, hb, if_true, he]
  exact ⟨trivial, World.get_put_got w hwf he (setPose_id e pose)⟩

/-- naming a second entity copies that entity's *current* pose (all four components) -/
theorem player_position_copy (w : World) (id1 id2 : Int) (pose : Pose) (master slave : Entity)
    (p y pt r : Val) (hwf : w.WF) (h2 : id2 ≠ 0) (hm : w.get? id2 = some master) (hs : w.get? id1 = some slave)
    (hp : poseOf master "position" = some p) (hy : poseOf master "yaw" = some y)
    (hpt : poseOf master "pitch" = some pt) (hr : poseOf master "roll" = some r) :
    (stepPlayerPosition w id1 id2 pose).err = none ∧
    (stepPlayerPosition w id1 id2 pose).world.get? id1 =
      some (slave.withVol [("position", p), ("yaw", y), ("pitch", pt), ("roll", r)]) := by
  unfold stepPlayerPosition
  have hb : (id2 != 0) = true := by simpa using h2
  unfold poseOf at hp hy hpt hr
  simp only [hb, if_true, hm, hs, copyPose, hp, hy, hpt, hr]
  exact ⟨trivial, World.get_put_got w hwf hs (withVol_id slave _)⟩

/-- a not-yet-created entity (first or second) is ignored: no change, no error -/
theorem player_position_unknown_ignored (w : World) (id1 id2 : Int) (pose : Pose)
    (h : (id2 ≠ 0 ∧ (w.get? id2 = none ∨ w.get? id1 = none)) ∨ (id2 = 0 ∧ w.get? id1 = none)) :
    stepPlayerPosition w id1 id2 pose = ok w := by
  unfold stepPlayerPosition
  rcases h with ⟨h2, hu⟩ | ⟨h2, hu⟩
  · have hb : (id2 != 0) = true := by simpa using h2
    simp only [hb, if_true]
    rcases hu with hu | hu
    · simp [hu]
    · cases hm : w.get? id2 <;> simp [hu]
  · subst h2
    simp only [bne_self_eq_false, Bool.false_eq_true, if_false]
    split
    · simp [hu]
    · rfl

/-- no ids at all: nothing happens -/
theorem player_position_zero (w : World) (pose : Pose) : stepPlayerPosition w 0 0 pose = ok w := by
  unfold stepPlayerPosition; simp

/-- **Entities never share pose state**: a pose packet for entity `i` leaves the pose (and
everything else) of every other entity — same type or not — untouched. -/
theorem pose_frame (cfg : Config) (w : World) (p : Packet) (hwf : w.WF) (j : Int)
    (hj : ∀ i, C05.target p = some i → j ≠ i) : (step cfg w p).world.get? j = w.get? j :=
  C05.step_frame cfg w p hwf j hj

/-- property updates do not touch poses -/
theorem property_keeps_pose (reg : Registry) (e : Entity) (idx : Nat) (bs : Bytes) :
    (setClientProperty reg e idx bs).1.volatile = e.volatile := by
  rw [C05.setClientProperty_entity]

/-- Non-vacuity of `player_position_copy`'s hypotheses. -/
example : poseOf (setPose { id := 1, view := default } ⟨[1, 2, 3], 4, 5, 6⟩) "yaw" = some (.f32 4) :=
  (setPose_reads _ _).2.1

/-- the poses a packet list sends to entity `id`, in stream order -/
def posesTo (id : Nat) : List Packet → List Pose
  | [] => []
  | .position id' pose :: ps => if id' = (id : Int) then pose :: posesTo id ps else posesTo id ps
  | _ :: ps => posesTo id ps

theorem posesTo_other (id : Nat) (p : Packet) (ps : List Packet)
    (h : C05.target p ≠ some (id : Int)) : posesTo id (p :: ps) = posesTo id ps := by
  cases p <;> simp only [posesTo]
  rename_i id' pose
  exact if_neg fun hc => h (by rw [hc]; rfl)

theorem setPose_view (e : Entity) (p : Pose) : (setPose e p).view = e.view := by
  unfold setPose Entity.withVol
  rfl

/-- the pose half of `entity_history`: the pose after the fold is that of the position packets
alone; `a` is any entity with the pose `e` starts from (the pose fold reads nothing else) -/
theorem fold_pose (cfg : Config) (id : Nat) : ∀ (ps : List Packet) (e a : Entity), a.volatile = e.volatile →
    (∀ p ∈ ps, C05.target p = some (id : Int) →
      (∃ idx data, p = .entityProperty id idx data) ∨ (∃ pose, p = .position (id : Int) pose)) →
    ((C05.addressedTo id ps).foldl (C05.entityStep cfg) e).volatile = ((posesTo id ps).foldl setPose a).volatile := by
  intro ps
  induction ps with
  | nil => intro e a h _; exact h.symm
  | cons p ps ih =>
    intro e a h hps
    have hps' := fun q hq => hps q (List.mem_cons_of_mem _ hq)
    rw [C05.addressedTo_cons]
    split
    · next ht =>
      rcases hps p (List.mem_cons_self ..) ht with ⟨idx, data, rfl⟩ | ⟨pose, rfl⟩
      · exact ih _ a (h.trans (property_keeps_pose cfg.reg e idx data).symm) hps'
      · rw [show posesTo id (.position id pose :: ps) = pose :: posesTo id ps from if_pos rfl, List.foldl_cons,
          List.foldl_cons]
        refine ih _ _ ?_ hps'
        unfold C05.entityStep setPose Entity.withVol
        rw [h]
    · next ht =>
      rw [posesTo_other id p ps ht]
      exact ih e a h hps'

/-- **An entity's state after any history of updates and positions.** The packets
addressed to `id` are property updates and position packets, in any interleaving, among
arbitrary packets for other entities: the client bucket is the initial one with the
successful updates applied in order, the pose is the initial one overwritten by the
position packets in order (so it is the last packet's pose, `setPose_reads`), and the
two never disturb each other. -/
theorem entity_history (cfg : Config) (hg : cfg.dialect.game ≠ .wowp) (id : Nat) :
    ∀ (ps : List Packet) (w : World) (e : Entity), w.WF → w.get? (id : Int) = some e →
      (∀ p ∈ ps, C05.target p = some (id : Int) →
        (∃ idx data, p = .entityProperty id idx data) ∨ (∃ pose, p = .position (id : Int) pose)) →
      ∃ e', (C05.runAll cfg w ps).get? (id : Int) = some e' ∧ e'.view = e.view ∧ e'.id = e.id ∧
        e'.client = C05.applyWrites e.client (C05.writesTo e.view id ps) ∧
        e'.volatile = ((posesTo id ps).foldl setPose e).volatile ∧
        e'.cell = e.cell ∧ e'.base = e.base := by
  intro ps w e hwf hget hps
  have hfold := C05.entity_fold cfg hg id ps w e hwf hget fun p hp ht => by
    rcases hps p hp ht with ⟨_, _, rfl⟩ | ⟨_, rfl⟩ <;> trivial
  have hpose := fold_pose cfg id ps e e rfl hps
  obtain ⟨v, h, _⟩ := C05.fold_history cfg id ps e hps
  rw [h] at hfold hpose
  exact ⟨_, hfold, rfl, rfl, rfl, hpose, rfl, rfl⟩

/-- **The vehicle field of a position packet is not interpreted**: two payloads that differ only in
bytes 4..8 (the id of the vehicle the entity rides on) deserialise to the same packet, hence
have the same effect — the pose set is the one the packet carries, for the entity it addresses. -/
theorem position_vehicle_irrelevant (jsonOk : Bytes → Bool) (idb v1 v2 rest : Bytes)
    (hid : idb.length = 4) (h1 : v1.length = 4) (h2 : v2.length = 4) :
    deserialize jsonOk .position (idb ++ v1 ++ rest) = deserialize jsonOk .position (idb ++ v2 ++ rest) := by
  simp only [deserialize, List.append_assoc, readIntLE_append, hid, h1, h2, ok_bind]

end ReplayModel.C08
