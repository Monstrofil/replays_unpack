/-
C18 — parsing a replay cannot execute code chosen by the file.
-/
import ReplayModel.PickleVM
import ReplayModel.Version
import ReplayModel.Generated.Facts
namespace ReplayModel.C18
open ReplayModel

/-- all `find_class` events of an outcome are in the allow-list -/
def Safe (a : List (Bytes × Bytes)) (x : PEnd) : Prop := ∀ e ∈ x.events, e ∈ a

/-- **A restricted unpickler only ever locates allow-listed classes** — for every byte
string, however malformed: every `find_class` event of a run with allow-list `a` is in `a`. -/
theorem restricted_unpickle_safe (a : List (Bytes × Bytes)) : ∀ (fuel : Nat) (bs : Bytes) (st : PState),
    (∀ e ∈ st.events, e ∈ a) → ∀ e ∈ (pickleRun (some a) fuel bs st).events, e ∈ a := by
  intro fuel
  induction fuel with
  | zero => intro bs st h; exact h
  | succ n ih =>
    intro bs st h
    cases bs with
    | nil => exact h
    | cons op rest =>
      unfold pickleRun
      -- the local helpers of `pickleRun` stay variables: one fact about each, then one split over the opcodes
      extract_lets go push cls skip line
      have hgo : ∀ r stack, Safe a (go r { st with stack := stack }) := fun r _ => ih r _ h
      -- the only place where an event is added: guarded by `allowed`
      have hcls : ∀ m n r stack, Safe a (cls m n r stack) := by
        intro m n r stack
        show Safe a (if allowed (some a) m n = true then _ else _)
        split
        · rename_i hal
          refine ih r _ fun e he => ?_
          rcases List.mem_append.mp he with he | he
          · exact h e he
          · rw [List.mem_singleton.mp he]
            simpa [allowed] using hal
        · exact h
      have hskip : ∀ k v, Safe a (skip k v) := by
        intro k v
        show Safe a (match skipN k rest with | none => _ | some r => _)
        split
        · exact h
        · split <;> exact hgo _ _
      have hline : ∀ k, (∀ l r, Safe a (k l r)) → Safe a (line k) := by
        intro k hk
        show Safe a (match readLine rest with | none => _ | some (l, r) => k l r)
        split
        · exact h
        · exact hk _ _
      clear_value go cls skip line
      show Safe a _
      split
      -- every opcode stops with the events so far, or is one of the helpers (GLOBAL / INST / STACK_GLOBAL through `cls`)
      all_goals first
        | exact h
        | exact hskip _ _
        | exact hgo _ _
        | exact hline _ fun _ _ => hgo _ _
        | (refine hline _ fun m r1 => ?_
           split
           · exact h
           · exact hcls _ _ _ _)
        | (split
           · first | exact hgo _ _ | exact hcls _ _ _ _
           · exact h)

theorem readLine_append (l rest : Bytes) (h : (10 : UInt8) ∉ l) : readLine (l ++ 10 :: rest) = some (l, rest) := by
  induction l with
  | nil => simp [readLine]
  | cons b bs ih =>
    have hb : (b == 10) = false := by
      simp only [beq_eq_false_iff_ne, ne_eq]
      intro hc; exact h (hc ▸ List.mem_cons_self ..)
    simp only [List.cons_append, readLine, hb, Bool.false_eq_true, if_false,
      ih (fun hc => h (List.mem_cons_of_mem _ hc)), Option.map_some]

/-! ### the package's allow-list, regenerated from `replay_unpack/core/safe_pickle.py` -/

/-- the fixed set of plain data classes the format needs: the two fixture classes, and the
containers / object reconstruction helper the pickle format itself refers to by name
(Python 2 spelling as written by the client, and the Python 3 spelling) -/
def dataClasses : List (String × String) :=
  [ ("CamouflageInfo", "CamouflageInfo"), ("PlayerModeDef", "PlayerMode"),
    ("copy_reg", "_reconstructor"), ("copyreg", "_reconstructor"),
    ("__builtin__", "object"), ("builtins", "object"),
    ("__builtin__", "set"), ("builtins", "set"),
    ("__builtin__", "frozenset"), ("builtins", "frozenset"),
    ("collections", "OrderedDict") ]

/-- every entry of the shipped allow-list is one of the plain data classes -/
theorem allowed_globals_fact : Generated.allowedGlobals.all (fun g => dataClasses.contains g) = true := by decide +kernel

def asBytes (g : String × String) : Bytes × Bytes := (g.1.toUTF8.toList, g.2.toUTF8.toList)

/-- **Unpickling with the shipped allow-list only ever locates plain data classes**, for every
payload: every `find_class` event is (the byte spelling of) a member of `dataClasses`. -/
theorem package_unpickle_safe (fuel : Nat) (bs : Bytes) :
    ∀ e ∈ (pickleRun (some (Generated.allowedGlobals.map asBytes)) fuel bs {}).events,
      ∃ g ∈ dataClasses, e = asBytes g := by
  intro e he
  have h1 := restricted_unpickle_safe _ fuel bs {} (fun _ h => nomatch h) e he
  rcases List.mem_map.mp h1 with ⟨g, hg, rfl⟩
  refine ⟨g, ?_, rfl⟩
  have h2 := List.all_eq_true.mp allowed_globals_fact g hg
  simpa using h2

/-- **The unrestricted unpickler locates whatever class the file names** (what the controllers did before
the fix, and what any reintroduced `pickle.loads` does):
for every module and attribute name there is a payload whose only `find_class` event is that
pair. -/
theorem unrestricted_unpickle_counterexample (m n : Bytes) (hm : (10 : UInt8) ∉ m) (hn : (10 : UInt8) ∉ n) :
    pickleRun none 2 (0x63 :: (m ++ 10 :: (n ++ 10 :: [0x2e]))) {} = .stop [(m, n)] := by
  -- GLOBAL: two lines, the `allowed` test, then the rest of the payload
  show (match readLine (m ++ 10 :: (n ++ 10 :: [0x2e])) with
    | none => _
    | some (l, r) => match readLine r with
      | none => _
      | some (n', r2) => if allowed none l n' then pickleRun none 1 r2 _ else _) = _
  rw [readLine_append m _ hm]
  simp only [readLine_append n _ hn]
  rfl

/-- a protocol-2 pickle of plain data (ints, strings, tuples, lists, dicts) never reaches
`find_class`: example, the roster rows the harness writes -/
example : (pickleRun none 50 [0x80, 2, 0x5d, 0x71, 0, 0x28, 0x4b, 1, 0x55, 2, 0x61, 0x62, 0x86, 0x71, 1, 0x65, 0x2e] {}).events = [] := by
  decide +kernel

/-! ### the version module is the only import a file can steer, and it stays inside the package -/

/-- the module name handed to `import_module` is `.versions.` followed by the joined version
components: relative to the client package, so no top-level module can be named -/
def importName (comps : List String) (n : Nat) : String := ".versions." ++ underscored comps n

theorem import_name_confined (comps : List String) (n : Nat) :
    (importName comps n).toList = ".versions.".toList ++ (underscored comps n).toList := by
  unfold importName
  exact String.toList_append

/-! ### every code-executing / file / process primitive in the package, regenerated from /repo -/

/-- the call sites that exist today: the restricted `safe_pickle.loads` of the version
controllers and the one `Unpickler.load` inside it, the relative import of the version module, the
reads of the replay and of the bundled definition files, the explicitly requested dump,
and two `getattr`s on bundled data (flag names of .def files, log level of the CLI) -/
def allowedSite (s : String × String × String) : Bool :=
  [ ("etree.parse", "_initialize", "replay_unpack/core/entity_def/data_types/__init__.py"),
    ("etree.parse", "_parse", "replay_unpack/core/entity_def/definitions.py"),
    ("etree.parse", "_parse_entities", "replay_unpack/core/entity_def/definitions.py"),
    ("etree.parse", "_parse_implements", "replay_unpack/core/entity_def/base_definition.py"),
    ("getattr-dynamic", "<module>", "replay_parser.py"),
    ("getattr-dynamic", "__init__", "replay_unpack/core/entity_def/base_definition.py"),
    ("getattr-dynamic", "__repr__", "replay_unpack/core/pretty_print_mixin.py"),
    ("importlib.import_module", "get_controller", "replay_unpack/clients/wot/helper.py"),
    ("importlib.import_module", "get_controller", "replay_unpack/clients/wowp/helper.py"),
    ("importlib.import_module", "get_controller", "replay_unpack/clients/wows/helper.py"),
    ("open", "_get_hidden_data", "replay_parser.py"),
    ("open", "_initialize", "replay_unpack/core/entity_def/data_types/__init__.py"),
    ("open", "_save_decrypted_data", "replay_unpack/replay_reader.py"),
    ("open", "get_replay_data", "replay_unpack/replay_reader.py"),
    ("Unpickler.load", "loads", "replay_unpack/core/safe_pickle.py"),
    ("safe_pickle.loads", "onArenaStateReceived", "version"),
    ("safe_pickle.loads", "onNewPlayerSpawnedInBattle", "version"),
    ("safe_pickle.loads", "onPlayerInfoUpdate", "version"),
    ("safe_pickle.loads", "onSetConsumable", "version"),
    ("safe_pickle.loads", "receiveDamageStat", "version") ].contains s

theorem primitive_sites_fact : Generated.primitiveSites.all allowedSite = true := by decide +kernel

end ReplayModel.C18
