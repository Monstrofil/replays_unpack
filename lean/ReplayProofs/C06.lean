/-
C06 — nested (path-addressed) updates and slices follow list/dict semantics.

The reader side (`applyNested`) is ordinary list / dict assignment along a path; the bit layout is
closed against the writer in `NestedEnc.lean`: what `encodeNested` writes, `applyNested` undoes.
-/
import ReplayModel.World
import ReplayModel.NestedEnc
import ReplayProofs.Lemmas.World
import ReplayProofs.C05
import ReplayProofs.C03
import ReplayProofs.C17
namespace ReplayModel.C06
open ReplayModel

/-- every clamping case at once: `take` and `drop` clamp to the length as Python does, and `max`
makes a reversed slice an insertion at `i` -/
theorem slice_eq (l xs : List Val) (i j : Nat) :
    sliceAssign l i j xs = l.take i ++ xs ++ l.drop (max i j) := by
  have h (k : Nat) : min (min k l.length) l.length = min k l.length := by rw [Nat.min_assoc, Nat.min_self]
  simp only [sliceAssign]
  rw [← Nat.min_max_distrib_right, List.take_eq_take_iff.mpr (h i), List.drop_eq_drop_iff.mpr (h _)]

theorem slice_in_range (l xs : List Val) (i j : Nat) (hij : i ≤ j) :
    sliceAssign l i j xs = l.take i ++ xs ++ l.drop j := by
  rw [slice_eq, Nat.max_eq_right hij]

/-- `j < i` (an "empty" slice): pure insertion at `i`, nothing is removed -/
theorem slice_reversed (l xs : List Val) (i j : Nat) (hji : j < i) (hi : i ≤ l.length) :
    sliceAssign l i j xs = l.take i ++ xs ++ l.drop i := by
  rw [slice_eq, Nat.max_eq_left (Nat.le_of_lt hji)]

/-- bounds beyond the end are clamped to the length -/
theorem slice_clamp (l xs : List Val) (i j : Nat) :
    sliceAssign l i j xs = sliceAssign l (min i l.length) (min j l.length) xs := by
  simp only [sliceAssign, Nat.min_assoc, Nat.min_self]

theorem slice_append (l xs : List Val) : sliceAssign l l.length l.length xs = l ++ xs := by
  rw [slice_eq]
  simp

theorem slice_delete (l : List Val) (i j : Nat) (hij : i ≤ j) (hj : j ≤ l.length) :
    sliceAssign l i j [] = l.take i ++ l.drop j := by
  rw [slice_in_range l [] i j hij]
  simp

theorem slice_length (l xs : List Val) (i j : Nat) (hij : i ≤ j) (hj : j ≤ l.length) :
    (sliceAssign l i j xs).length = l.length - (j - i) + xs.length := by
  rw [slice_in_range l xs i j hij, List.length_append, List.length_append,
    List.length_take_of_le (Nat.le_trans hij hj), List.length_drop]
  omega

theorem slice_prefix (l xs : List Val) (i j k : Nat) (hij : i ≤ j) (hj : j ≤ l.length) (hk : k < i) :
    (sliceAssign l i j xs)[k]? = l[k]? := by
  rw [slice_in_range l xs i j hij, List.append_assoc, List.getElem?_append_left (by simp; omega)]
  rw [List.getElem?_take]
  simp [hk]

theorem leaf_dict_set (fs : List (String × Ty)) (an : Bool) (vs : List (String × Val)) (r r' : BitReader)
    (i : Nat) (name : String) (ft : Ty) (nv : Val) (rest : Bytes)
    (hg : r.get (bitsRequired vs.length) = .ok (i, r')) (hf : fs[i]? = some (name, ft))
    (hd : decode 1 ft r'.getRest = .ok (nv, rest)) :
    nestedLeaf false (.fixedDict fs an) (.dict vs) r =
      .ok ⟨.dict (dictSet vs name nv), [name], some (.dict (dictSet vs name nv))⟩ := by
  simp [nestedLeaf, hg, hf, hd]

/-- `assert self.is_slice is False` -/
theorem leaf_dict_slice_refused (fs : List (String × Ty)) (an : Bool) (vs : List (String × Val)) (r : BitReader) :
    nestedLeaf true (.fixedDict fs an) (.dict vs) r = .error (.err .assertion) := by
  simp [nestedLeaf]

theorem leaf_list_set (et : Ty) (sz : Option Nat) (xs : List Val) (r r1 : BitReader) (i : Nat)
    (nv : Val) (more : List Val)
    (hg : r.get (bitsRequired xs.length) = .ok (i, r1)) (hne : r1.getRest.isEmpty = false)
    (hd : decodeAll et (r1.getRest.length + 1) r1.getRest = .ok (nv :: more)) (hi : i < xs.length) :
    nestedLeaf false (.array et sz) (.list xs) r =
      .ok ⟨.list (xs.set i nv), [natStr i], some (.list (xs.set i nv))⟩ := by
  simp [nestedLeaf, hg, hne, hd, hi]

/-- no element data: `obj[index1] = None`, and the `return` comes before the subscribers are told -/
theorem leaf_list_clear (et : Ty) (sz : Option Nat) (xs : List Val) (r r1 : BitReader) (i : Nat)
    (hg : r.get (bitsRequired xs.length) = .ok (i, r1)) (he : r1.getRest.isEmpty = true) (hi : i < xs.length) :
    nestedLeaf false (.array et sz) (.list xs) r = .ok ⟨.list (xs.set i .none), [natStr i], none⟩ := by
  simp [nestedLeaf, hg, he, hi]

theorem leaf_slice_assign (et : Ty) (sz : Option Nat) (xs new : List Val) (r r1 r2 : BitReader) (i j : Nat)
    (h1 : r.get (bitsRequired (xs.length + 1)) = .ok (i, r1))
    (h2 : r1.get (bitsRequired (xs.length + 1)) = .ok (j, r2)) (hne : r2.getRest.isEmpty = false)
    (hd : decodeAll et (r2.getRest.length + 1) r2.getRest = .ok new) :
    nestedLeaf true (.array et sz) (.list xs) r =
      .ok ⟨.list (sliceAssign xs i j new), [natStr i ++ ":" ++ natStr j], some (.list (sliceAssign xs i j new))⟩ := by
  simp [nestedLeaf, h1, h2, hne, hd]

theorem leaf_slice_delete (et : Ty) (sz : Option Nat) (xs : List Val) (r r1 r2 : BitReader) (i j : Nat)
    (h1 : r.get (bitsRequired (xs.length + 1)) = .ok (i, r1))
    (h2 : r1.get (bitsRequired (xs.length + 1)) = .ok (j, r2)) (he : r2.getRest.isEmpty = true) :
    nestedLeaf true (.array et sz) (.list xs) r =
      .ok ⟨.list (sliceAssign xs i j []), [natStr i ++ ":" ++ natStr j], none⟩ := by
  simp [nestedLeaf, h1, h2, he]

theorem walk_list {t et : Ty} {sz : Option Nat} {xs : List Val} {r r1 r2 : BitReader} {i : Nat} {child : Val}
    (sl : Bool) (fuel : Nat) (ht : t.peel = .array et sz) (hb : r.get 1 = .ok (1, r1))
    (hi : r1.get (bitsRequired xs.length) = .ok (i, r2)) (hc : xs[i]? = some child) :
    nestedWalk sl (fuel + 1) t (.list xs) r =
      (nestedWalk sl fuel et child r2).map fun out => ⟨.list (xs.set i out.val), natStr i :: out.path, out.notify⟩ := by
  have hne : xs.isEmpty = false := by
    cases xs
    · cases hc
    · rfl
  simp only [nestedWalk, hb, pyTruthy, hne, ht, hi, hc]
  rfl

theorem walk_dict {t ft : Ty} {fs : List (String × Ty)} {an : Bool} {vs : List (String × Val)}
    {r r1 r2 : BitReader} {i : Nat} {name : String} {child : Val}
    (sl : Bool) (fuel : Nat) (ht : t.peel = .fixedDict fs an) (hb : r.get 1 = .ok (1, r1))
    (hi : r1.get (bitsRequired vs.length) = .ok (i, r2)) (hf : fs[i]? = some (name, ft))
    (hc : dictGet? vs name = some child) :
    nestedWalk sl (fuel + 1) t (.dict vs) r =
      (nestedWalk sl fuel ft child r2).map fun out => ⟨.dict (dictSet vs name out.val), name :: out.path, out.notify⟩ := by
  have hne : vs.isEmpty = false := by
    cases vs
    · cases hc
    · rfl
  simp only [nestedWalk, hb, pyTruthy, hne, ht, hi, hf, hc]
  rfl

theorem walk_descend_list (sl : Bool) (fuel : Nat) (et : Ty) (sz : Option Nat) (xs : List Val)
    (r r1 r2 : BitReader) (i : Nat) (child : Val) (out : NestedOut)
    (hb : r.get 1 = .ok (1, r1)) (ht : xs ≠ [])
    (hi : r1.get (bitsRequired xs.length) = .ok (i, r2)) (hc : xs[i]? = some child)
    (hr : nestedWalk sl fuel et child r2 = .ok out) :
    nestedWalk sl (fuel + 1) (.array et sz) (.list xs) r =
      .ok ⟨.list (xs.set i out.val), natStr i :: out.path, out.notify⟩ := by
  rw [walk_list sl fuel (t := .array et sz) rfl hb hi hc, hr]
  rfl

theorem walk_descend_dict (sl : Bool) (fuel : Nat) (fs : List (String × Ty)) (an : Bool)
    (vs : List (String × Val)) (r r1 r2 : BitReader) (i : Nat) (name : String) (ft : Ty) (child : Val)
    (out : NestedOut) (hb : r.get 1 = .ok (1, r1)) (ht : vs ≠ [])
    (hi : r1.get (bitsRequired vs.length) = .ok (i, r2)) (hf : fs[i]? = some (name, ft))
    (hc : dictGet? vs name = some child) (hr : nestedWalk sl fuel ft child r2 = .ok out) :
    nestedWalk sl (fuel + 1) (.fixedDict fs an) (.dict vs) r =
      .ok ⟨.dict (dictSet vs name out.val), name :: out.path, out.notify⟩ := by
  rw [walk_dict sl fuel (t := .fixedDict fs an) rfl hb hi hf hc, hr]
  rfl

theorem walk_stop (sl : Bool) (fuel : Nat) (t : Ty) (v : Val) (r r1 : BitReader)
    (hb : r.get 1 = .ok (0, r1)) :
    nestedWalk sl (fuel + 1) t v r = nestedLeaf sl t.peel v r1 := by
  simp [nestedWalk, hb]

/-- `while bit_reader.get(1) and obj`: an empty container ends the walk whatever the bit says -/
theorem walk_stop_falsy (sl : Bool) (fuel : Nat) (t : Ty) (v : Val) (r r1 : BitReader) (b : Nat)
    (hb : r.get 1 = .ok (b, r1)) (hf : pyTruthy v = false) :
    nestedWalk sl (fuel + 1) t v r = nestedLeaf sl t.peel v r1 := by
  simp [nestedWalk, hb, hf]

/-- a nested update changes only the `client` bucket of the addressed entity -/
theorem nested_entity_frame (reg : Registry) (e e' : Entity) (sl : Bool) (payload : Bytes)
    (l : List LogEntry) (raised : Bool) (h : applyNested reg e sl payload = .ok (e', l, raised)) :
    e'.id = e.id ∧ e'.base = e.base ∧ e'.cell = e.cell ∧ e'.volatile = e.volatile ∧ e'.view = e.view := by
  obtain ⟨_, _, rfl, _⟩ := applyNested_ok h
  exact ⟨rfl, rfl, rfl, rfl, rfl⟩

/-- … and within that bucket only the addressed property -/
theorem nested_property_frame (reg : Registry) (e e' : Entity) (sl : Bool) (payload : Bytes)
    (l : List LogEntry) (raised : Bool) (h : applyNested reg e sl payload = .ok (e', l, raised)) :
    ∃ name v, e'.client = dictSet e.client name v := by
  obtain ⟨name, out, rfl, _⟩ := applyNested_ok h
  exact ⟨name, out.val, rfl⟩

/-- no other entity changes, of the same type or not -/
theorem nested_world_frame (cfg : Config) (w : World) (id : Nat) (sl : Bool) (payload : Bytes)
    (hwf : w.WF) (j : Int) (hj : j ≠ (id : Int)) :
    (step cfg w (.nested id sl payload)).world.get? j = w.get? j :=
  C05.step_frame cfg w _ hwf j fun _ hi => Option.some.inj hi ▸ hj

/-- a failing nested update leaves the world exactly as it was -/
theorem nested_failure_clean (cfg : Config) (w : World) (id : Int) (sl : Bool) (payload : Bytes) (e : Entity)
    (he : w.get? id = some e) (er : NErr) (hf : applyNested cfg.reg e sl payload = .error er) :
    (stepNested cfg w id sl payload).world = w := by
  unfold stepNested
  simp only [he, hf]
  cases er <;> rfl

/-- Non-vacuity: the slice lemmas on a concrete list (`[a,b,c,d][1:3] = [x]`). -/
example : sliceAssign [.int 1, .int 2, .int 3, .int 4] 1 3 [.int 9] = [.int 1, .int 9, .int 4] :=
  slice_in_range _ _ 1 3 (by decide)

theorem natBits_length (w n : Nat) : (natBits w n).length = w := by
  induction w generalizing n with
  | zero => rfl
  | succ w ih => simp [natBits, ih]

theorem foldl_natBits (w n acc : Nat) (h : n < 2 ^ w) :
    (natBits w n).foldl (fun a b => 2 * a + (if b then 1 else 0)) acc = acc * 2 ^ w + n := by
  induction w generalizing n acc with
  | zero =>
    simp [natBits]
    omega
  | succ w ih =>
    rw [natBits, List.foldl_cons, ih _ _ (Nat.mod_lt _ (Nat.two_pow_pos w)), Nat.pow_succ, Nat.add_mul,
      Nat.mul_comm 2 acc, Nat.mul_assoc, Nat.mul_comm 2, Nat.add_assoc]
    congr 1
    rw [Nat.pow_succ] at h
    by_cases hc : 2 ^ w ≤ n
    · rw [Nat.mod_eq_sub_mod hc, Nat.mod_eq_of_lt (by omega)]
      simp [hc]
    · rw [Nat.mod_eq_of_lt (by omega)]
      simp [hc]

theorem bitsVal_natBits (w n : Nat) (h : n < 2 ^ w) : bitsVal (natBits w n) = n :=
  (foldl_natBits w n 0 h).trans (by simp)

theorem get_natBits (r : BitReader) (w n : Nat) (tail : List Bool) (h : n < 2 ^ w)
    (hp : r.pending = natBits w n ++ tail) :
    ∃ r', r.get w = .ok (n, r') ∧ r'.pending = tail ∧ (∀ bs, r.Inv bs → r'.Inv bs) := by
  have := get_append r (natBits w n) tail hp
  rwa [natBits_length, bitsVal_natBits w n h] at this

theorem lt_two_pow_bitsRequired (i n : Nat) (h : i < n) : i < 2 ^ bitsRequired n :=
  Nat.lt_of_lt_of_le h ((C17.bitsRequired_le_iff n _).mp (Nat.le_refl _))

theorem get_bit (r : BitReader) (b : Bool) (tail : List Bool) (hp : r.pending = b :: tail) :
    ∃ r', r.get 1 = .ok ((if b then 1 else 0), r') ∧ r'.pending = tail ∧ (∀ bs, r.Inv bs → r'.Inv bs) := by
  -- `bitsVal [b]` computes only for a concrete `b`
  cases b
  all_goals exact get_append r [_] tail hp


def wrap (R : Reach) (out : NestedOut) : NestedOut := ⟨R.rebuild out.val, R.names ++ out.path, out.notify⟩

/-- One index of a path, list and dict alike: what `reach` requires of the container is what one
descent of the walk needs, and the child's `Reach` grows by the continuation bit, the index field
and the assignment `put` into the container. -/
theorem reach_cons {t : Ty} {v : Val} {i : Nat} {rest : List Nat} {R : Reach}
    (h : reach t v (i :: rest) = some R) :
    ∃ (n : Nat) (ct : Ty) (child : Val) (name : String) (put : Val → Val) (R' : Reach),
      i < n ∧ reach ct child rest = some R' ∧
      R = ⟨true :: (natBits (bitsRequired n) i ++ R'.bits), R'.ty, R'.val, name :: R'.names,
        fun nv => put (R'.rebuild nv)⟩ ∧
      ∀ sl fuel r r1 r2, r.get 1 = .ok (1, r1) → r1.get (bitsRequired n) = .ok (i, r2) →
        nestedWalk sl (fuel + 1) t v r =
          (nestedWalk sl fuel ct child r2).map fun out => ⟨put out.val, name :: out.path, out.notify⟩ := by
  unfold reach at h
  split at h
  · rename_i et sz xs ht
    split at h
    · cases h
    · rename_i child hc
      obtain ⟨R', hR', rfl⟩ := Option.map_eq_some_iff.mp h
      exact ⟨xs.length, et, child, natStr i, fun c => .list (xs.set i c), R', (List.getElem?_eq_some_iff.mp hc).1,
        hR', rfl, fun sl fuel _ _ _ hb hi => walk_list sl fuel ht hb hi hc⟩
  · rename_i fs an vs ht
    split at h
    · rename_i hi
      split at h
      · cases h
      · rename_i name ft hf
        split at h
        · cases h
        · rename_i child hc
          obtain ⟨R', hR', rfl⟩ := Option.map_eq_some_iff.mp h
          exact ⟨vs.length, ft, child, name, fun c => .dict (dictSet vs name c), R', hi, hR', rfl,
            fun sl fuel _ _ _ hb hi => walk_dict sl fuel ht hb hi hf hc⟩
    · cases h
  · cases h


/-- **The walk decodes exactly the path that was written.** For every path of indices that
exists in the value (any depth), followed by a stop bit (0, or anything when the container
reached is empty): the walk ends at that container with the reader positioned right after
the stop bit, performs the leaf operation there, and puts the result back by `List.set` /
dict assignment along the path. -/
theorem walk_reach (sl : Bool) : ∀ (path : List Nat) (t : Ty) (v : Val) (R : Reach) (r : BitReader)
    (stop : Bool) (tail : List Bool) (fuel : Nat),
    reach t v path = some R → (stop = true → pyTruthy R.val = false) → path.length < fuel →
    r.pending = R.bits ++ stop :: tail →
    ∃ r', r'.pending = tail ∧ (∀ bs, r.Inv bs → r'.Inv bs) ∧
      nestedWalk sl fuel t v r = (nestedLeaf sl R.ty.peel R.val r').map (wrap R) := by
  intro path t v R r stop tail fuel hR hstop hfuel hp
  induction path generalizing t v R r fuel with
  | nil =>
    obtain ⟨f, rfl⟩ := Nat.exists_eq_add_one_of_ne_zero (Nat.ne_zero_of_lt hfuel)
    obtain rfl := Option.some.inj hR
    obtain ⟨r', h1, h2, h3⟩ := get_bit r stop tail hp
    refine ⟨r', h2, h3, ?_⟩
    have hw : nestedWalk sl (f + 1) t v r = nestedLeaf sl t.peel v r' := by
      cases stop with
      | false => exact walk_stop sl f t v r r' h1
      | true => exact walk_stop_falsy sl f t v r r' 1 h1 (hstop rfl)
    rw [hw]
    cases nestedLeaf sl t.peel v r'
    all_goals rfl
  | cons i rest ih =>
    obtain ⟨f, rfl⟩ := Nat.exists_eq_add_one_of_ne_zero (Nat.ne_zero_of_lt hfuel)
    obtain ⟨n, ct, child, name, put, R', hi, hR', rfl, hstep⟩ := reach_cons hR
    rw [List.cons_append, List.append_assoc] at hp
    obtain ⟨r1, g1, g2, g3⟩ := get_bit r true _ hp
    obtain ⟨r2, k1, k2, k3⟩ := get_natBits r1 _ i _ (lt_two_pow_bitsRequired i n hi) g2
    obtain ⟨r', m1, m2, m3⟩ := ih ct child R' r2 f hR' hstop (Nat.lt_of_succ_lt_succ hfuel) k2
    refine ⟨r', m1, fun bs h => m2 bs (k3 bs (g3 bs h)), ?_⟩
    rw [hstep sl f r r1 r2 g1 k1, m3]
    cases nestedLeaf sl R'.ty.peel R'.val r'
    all_goals rfl

theorem reach_bits_length : ∀ (path : List Nat) (t : Ty) (v : Val) (R : Reach),
    reach t v path = some R → path.length ≤ R.bits.length := by
  intro path t v R h
  induction path generalizing t v R with
  | nil => exact Nat.zero_le _
  | cons i rest ih =>
    obtain ⟨n, ct, child, name, put, R', _, hR', rfl, _⟩ := reach_cons h
    have := ih _ _ _ hR'
    simp only [List.length_cons, List.length_append]
    omega

theorem getRest_of_pending (r : BitReader) (bs pre data : Bytes) (pad : List Bool)
    (hinv : r.Inv bs) (hbs : bs = pre ++ data) (hp : r.pending = pad ++ C17.bitsOf data) (hpad : pad.length < 8) :
    r.getRest = data := by
  rw [getRest_of_inv r bs hinv, hp, hbs, List.length_append, List.length_append, C17.bitsOf_length,
    Nat.add_mul_div_left _ _ (Nat.zero_lt_succ 7), Nat.div_eq_of_lt hpad, Nat.zero_add, Nat.add_sub_cancel,
    List.drop_left]

/-- the read-until-exhausted loop returns exactly the elements that were written -/
theorem decodeAll_encode (et : Ty) : ∀ (vs : List Val) (fuel : Nat),
    (∀ v ∈ vs, hasTy et v = true ∧ userOK 1 et v = true ∧ encodeWire 1 et v ≠ []) →
    (vs.flatMap (encodeWire 1 et)).length < fuel →
    decodeAll et fuel (vs.flatMap (encodeWire 1 et)) = .ok vs := by
  intro vs fuel hall hf
  induction vs generalizing fuel with
  | nil =>
    obtain ⟨f, rfl⟩ := Nat.exists_eq_add_one_of_ne_zero (Nat.ne_zero_of_lt hf)
    rfl
  | cons v vs ih =>
    obtain ⟨f, rfl⟩ := Nat.exists_eq_add_one_of_ne_zero (Nat.ne_zero_of_lt hf)
    obtain ⟨hv, hu, hne⟩ := hall v (List.mem_cons_self ..)
    have hpos := List.length_pos_iff.mpr hne
    rw [List.flatMap_cons, List.length_append] at hf
    simp [decodeAll, C03.decode_encode 1 et v _ hv hu, hne,
      ih f (fun x hx => hall x (List.mem_cons_of_mem _ hx)) (by omega)]

/-- what an encoder must respect: indices representable in their field (slice bounds may
exceed the length: Python clamps them) and, for element access, in range, values of the element
type, element encodings non-empty (no zero-width elements) -/
def leafOK (t : Ty) (v : Val) : LeafOp → Prop
  | .dictSet i nv => ∃ fs an vs name ft, t = .fixedDict fs an ∧ v = .dict vs ∧ i < vs.length ∧ fs[i]? = some (name, ft) ∧
      hasTy ft nv = true ∧ userOK 1 ft nv = true
  | .listSet i nv => ∃ et sz xs, t = .array et sz ∧ v = .list xs ∧ i < xs.length ∧
      hasTy et nv = true ∧ userOK 1 et nv = true ∧ encodeWire 1 et nv ≠ []
  | .listClear i => ∃ et sz xs, t = .array et sz ∧ v = .list xs ∧ i < xs.length
  | .slice i j new => ∃ et sz xs, t = .array et sz ∧ v = .list xs ∧
      i < 2 ^ bitsRequired (xs.length + 1) ∧ j < 2 ^ bitsRequired (xs.length + 1) ∧
      (∀ x ∈ new, hasTy et x = true ∧ userOK 1 et x = true ∧ encodeWire 1 et x ≠ [])

/-- **Leaf operations decode to what was written**, for every container, every operation the
encoder may legally write, and any reader positioned at the index fields with the element
data starting at the next byte boundary. -/
theorem leaf_encoded (t : Ty) (v : Val) (op : LeafOp) (r : BitReader) (bs pre : Bytes) (pad : List Bool)
    (hok : leafOK t v op) (hinv : r.Inv bs) (hbs : bs = pre ++ leafData t op)
    (hp : r.pending = leafBits v op ++ (pad ++ C17.bitsOf (leafData t op))) (hpad : pad.length < 8) :
    ∃ out, leafResult t v op = some out ∧ nestedLeaf op.isSlice t v r = .ok out := by
  cases op with
  | dictSet i nv =>
    obtain ⟨fs, an, vs, name, ft, rfl, rfl, hi, hf, hv, hu⟩ := hok
    simp only [leafBits, leafData, hf] at hp hbs
    obtain ⟨r', g1, g2, g3⟩ := get_natBits r _ i _ (lt_two_pow_bitsRequired i _ hi) hp
    refine ⟨_, by simp [leafResult, hf], leaf_dict_set fs an vs r r' i name ft nv [] g1 hf ?_⟩
    rw [getRest_of_pending r' bs pre _ pad (g3 bs hinv) hbs g2 hpad]
    simpa using C03.decode_encode 1 ft nv [] hv hu
  | listSet i nv =>
    obtain ⟨et, sz, xs, rfl, rfl, hi, hv, hu, hne⟩ := hok
    simp only [leafBits, leafData] at hp hbs
    obtain ⟨r', g1, g2, g3⟩ := get_natBits r _ i _ (lt_two_pow_bitsRequired i _ hi) hp
    have hrest := getRest_of_pending r' bs pre _ pad (g3 bs hinv) hbs g2 hpad
    refine ⟨_, rfl, leaf_list_set et sz xs r r' i nv [] g1 ?_ ?_ hi⟩
    · rw [hrest]
      exact List.isEmpty_eq_false_iff.mpr hne
    · rw [hrest]
      simpa using decodeAll_encode et [nv] ((encodeWire 1 et nv).length + 1) (by simpa using ⟨hv, hu, hne⟩) (by simp)
  | listClear i =>
    obtain ⟨et, sz, xs, rfl, rfl, hi⟩ := hok
    simp only [leafBits, leafData] at hp hbs
    obtain ⟨r', g1, g2, g3⟩ := get_natBits r _ i _ (lt_two_pow_bitsRequired i _ hi) hp
    have hrest := getRest_of_pending r' bs pre _ pad (g3 bs hinv) hbs g2 hpad
    exact ⟨_, rfl, leaf_list_clear et sz xs r r' i g1 (by rw [hrest]; rfl) hi⟩
  | slice i j new =>
    obtain ⟨et, sz, xs, rfl, rfl, hi, hj, hall⟩ := hok
    simp only [leafBits, leafData, List.append_assoc] at hp hbs
    obtain ⟨r1, g1, g2, g3⟩ := get_natBits r _ i _ hi hp
    obtain ⟨r2, k1, k2, k3⟩ := get_natBits r1 _ j _ hj g2
    have hrest := getRest_of_pending r2 bs pre _ pad (k3 bs (g3 bs hinv)) hbs k2 hpad
    refine ⟨_, rfl, ?_⟩
    cases new with
    | nil => exact leaf_slice_delete et sz xs r r1 r2 i j g1 k1 (by rw [hrest]; rfl)
    | cons x new =>
      refine leaf_slice_assign et sz xs _ r r1 r2 i j g1 k1 ?_ ?_
      · rw [hrest]
        simp [(hall x (List.mem_cons_self ..)).2.2]
      · rw [hrest]
        exact decodeAll_encode et _ _ hall (Nat.lt_succ_self _)

/-- `nested_update_decodes` for either stop bit: the walk also ends on a 1 when the container
reached is empty (`while bit_reader.get(1) and obj`), which no encoder writes. -/
theorem nested_update_decodes_stop (reg : Registry) (e : Entity) (header : Bytes) (pi : Nat) (p : PropDef) (v : Val)
    (path : List Nat) (R : Reach) (op : LeafOp) (stop : Bool) (pad : List Bool)
    (hp : e.view.clientProps[pi]? = some p) (hv : dictGet? e.client p.name = some v)
    (hR : reach p.ty v path = some R) (hok : leafOK R.ty.peel R.val op)
    (hstop : stop = true → pyTruthy R.val = false)
    (hbits : C17.bitsOf header = true :: (natBits (bitsRequired e.view.clientProps.length) pi ++
      (R.bits ++ stop :: (leafBits R.val op ++ pad))))
    (hpad : pad.length < 8) :
    ∃ out l raised, leafResult R.ty.peel R.val op = some out ∧
      applyNested reg e op.isSlice (header ++ leafData R.ty.peel op) =
        .ok ({ e with client := dictSet e.client p.name (R.rebuild out.val) }, l, raised) := by
  obtain ⟨payload, hpl⟩ : ∃ payload, payload = header ++ leafData R.ty.peel op := ⟨_, rfl⟩
  have hpend : (BitReader.ofBytes payload).pending = C17.bitsOf header ++ C17.bitsOf (leafData R.ty.peel op) := by
    rw [hpl]
    exact List.flatMap_append
  rw [hbits, List.cons_append, List.append_assoc, List.append_assoc, List.cons_append, List.append_assoc] at hpend
  obtain ⟨r1, g1, g2, g3⟩ := get_bit (BitReader.ofBytes payload) true _ hpend
  obtain ⟨r2, k1, k2, k3⟩ := get_natBits r1 _ pi _ (lt_two_pow_bitsRequired pi _ (List.getElem?_eq_some_iff.mp hp).1) g2
  -- the fuel `applyNested` gives the walk: every index of the path costs at least its continuation bit
  have hfuel : path.length < 8 * payload.length + 2 := by
    have h1 := reach_bits_length path p.ty v R hR
    have h2 := congrArg List.length hbits
    have h3 := congrArg List.length hpl
    simp only [C17.bitsOf_length, List.length_cons, List.length_append] at h2 h3
    omega
  obtain ⟨r3, m1, m2, m3⟩ := walk_reach op.isSlice path p.ty v R r2 stop _ _ hR hstop hfuel k2
  obtain ⟨out, ho1, ho2⟩ := leaf_encoded R.ty.peel R.val op r3 payload header pad hok
    (m2 _ (k3 _ (g3 _ (ofBytes_inv payload)))) hpl m1 hpad
  have hwalk : nestedWalk op.isSlice (8 * payload.length + 2) p.ty v r2 = .ok (wrap R out) := by
    rw [m3, ho2]
    rfl
  refine ⟨out, ?_⟩
  rw [← hpl]
  simp only [applyNested, g1, k1, hp, hv, hwalk, if_true, Nat.one_ne_zero, if_false, wrap]
  cases out.notify with
  | none => exact ⟨[], false, ho1, rfl⟩
  | some obj => exact ⟨_, _, ho1, rfl⟩

/-- **A nested update decodes to exactly the operation that was written** — the closed form
of `NestedProperty.read_and_apply`. For every entity, every client property holding a
container, every index path that exists in it (any depth), every leaf operation an encoder
may legally write, and every payload whose leading bytes spell, MSB first,
`1, property index, (1, child index)*, 0, leaf index fields` padded to a byte boundary and
followed by the wire encoding of the new elements: the update succeeds and the entity's
property becomes the old value with the leaf operation applied at the end of the path
(`List.set` / dict assignment along the path, Python slice assignment at the leaf); nothing
else in the entity changes (`nested_entity_frame`). -/
theorem nested_update_decodes (reg : Registry) (e : Entity) (header : Bytes) (pi : Nat) (p : PropDef) (v : Val)
    (path : List Nat) (R : Reach) (op : LeafOp) (pad : List Bool)
    (hp : e.view.clientProps[pi]? = some p) (hv : dictGet? e.client p.name = some v)
    (hR : reach p.ty v path = some R) (hok : leafOK R.ty.peel R.val op)
    (hbits : C17.bitsOf header = true :: (natBits (bitsRequired e.view.clientProps.length) pi ++
      (R.bits ++ false :: (leafBits R.val op ++ pad))))
    (hpad : pad.length < 8) :
    ∃ out l raised, leafResult R.ty.peel R.val op = some out ∧
      applyNested reg e op.isSlice (header ++ leafData R.ty.peel op) =
        .ok ({ e with client := dictSet e.client p.name (R.rebuild out.val) }, l, raised) :=
  nested_update_decodes_stop reg e header pi p v path R op false pad hp hv hR hok (fun h => nomatch h) hbits hpad

theorem bitsOfByte_byteOfBits (bs : List Bool) (h : bs.length = 8) : bitsOfByte (byteOfBits bs) = bs := by
  have key : ∀ b0 b1 b2 b3 b4 b5 b6 b7 : Bool,
      bitsOfByte (byteOfBits [b0, b1, b2, b3, b4, b5, b6, b7]) = [b0, b1, b2, b3, b4, b5, b6, b7] := by
    decide +kernel
  match bs, h with
  | [b0, b1, b2, b3, b4, b5, b6, b7], _ => exact key ..

theorem bitsOf_packBits_zero (bs : List Bool) :
    ∃ k, k < 8 ∧ C17.bitsOf (packBits bs) = bs ++ List.replicate k false := by
  fun_induction packBits bs with
  | case1 b0 b1 b2 b3 b4 b5 b6 b7 rest ih =>
    obtain ⟨k, h1, h2⟩ := ih
    refine ⟨k, h1, ?_⟩
    rw [C17.bitsOf, List.flatMap_cons, bitsOfByte_byteOfBits _ rfl]
    exact congrArg _ h2
  | case2 => exact ⟨0, Nat.zero_lt_succ 7, rfl⟩
  | case3 short h1 h2 =>
    have hlt : short.length < 8 := by
      rcases short with _ | ⟨a0, _ | ⟨a1, _ | ⟨a2, _ | ⟨a3, _ | ⟨a4, _ | ⟨a5, _ | ⟨a6, _ | ⟨a7, rest⟩⟩⟩⟩⟩⟩⟩⟩
      rotate_right
      · exact (h1 _ _ _ _ _ _ _ _ _ rfl).elim
      all_goals simp
    have hpos := List.length_pos_iff.mpr h2
    refine ⟨8 - short.length, by omega, ?_⟩
    rw [C17.bitsOf, List.flatMap_cons, bitsOfByte_byteOfBits _ (by simp; omega)]
    simp

/-- **Bit packing is inverted by the reader's bit order**: the bits of the packed bytes are the
bits written, followed by fewer than 8 zero padding bits. -/
theorem bitsOf_packBits (bs : List Bool) :
    ∃ pad : List Bool, pad.length < 8 ∧ C17.bitsOf (packBits bs) = bs ++ pad := by
  obtain ⟨k, hk, h⟩ := bitsOf_packBits_zero bs
  exact ⟨List.replicate k false, by rwa [List.length_replicate], h⟩

theorem leafOKb_sound (t : Ty) (v : Val) (op : LeafOp) (h : leafOKb t v op = true) : leafOK t v op := by
  cases op with
  | dictSet i nv =>
    simp only [leafOKb] at h
    split at h
    · rename_i fs an vs
      split at h
      · rename_i name ft hf
        simp only [Bool.and_eq_true, decide_eq_true_eq] at h
        exact ⟨fs, an, vs, name, ft, rfl, rfl, h.1, hf, h.2.1, h.2.2⟩
      · simp at h
    · cases h
  | listSet i nv =>
    simp only [leafOKb] at h
    split at h
    · rename_i et sz xs
      simp only [Bool.and_eq_true, decide_eq_true_eq, Bool.not_eq_true', List.isEmpty_eq_false_iff] at h
      exact ⟨et, sz, xs, rfl, rfl, h.1.1.1, h.1.1.2, h.1.2, h.2⟩
    · cases h
  | listClear i =>
    simp only [leafOKb] at h
    split at h
    · rename_i et sz xs
      simp only [decide_eq_true_eq] at h
      exact ⟨et, sz, xs, rfl, rfl, h⟩
    · cases h
  | slice i j new =>
    simp only [leafOKb] at h
    split at h
    · rename_i et sz xs
      simp only [Bool.and_eq_true, decide_eq_true_eq, List.all_eq_true, Bool.not_eq_true', List.isEmpty_eq_false_iff] at h
      exact ⟨et, sz, xs, rfl, rfl, h.1.1, h.1.2, fun x hx => ⟨(h.2 x hx).1.1, (h.2 x hx).1.2, (h.2 x hx).2⟩⟩
    · cases h

/-- **Writing then applying a nested update is the list/dict operation** — the round trip of
`encodeNested` through `NestedProperty.read_and_apply`, for every entity, property, index
path of any depth and leaf operation for which an encoding exists. No hypothesis about the
shape of the header remains: the bytes are those `packBits` produces. -/
theorem nested_encode_apply (reg : Registry) (e : Entity) (pi : Nat) (path : List Nat) (op : LeafOp)
    (payload : Bytes) (h : encodeNested e pi path op = some payload) :
    ∃ p v R out l raised, e.view.clientProps[pi]? = some p ∧ dictGet? e.client p.name = some v ∧
      reach p.ty v path = some R ∧ leafResult R.ty.peel R.val op = some out ∧
      applyNested reg e op.isSlice payload =
        .ok ({ e with client := dictSet e.client p.name (R.rebuild out.val) }, l, raised) := by
  unfold encodeNested at h
  split at h
  · cases h
  rename_i p hp
  split at h
  · cases h
  rename_i v hv
  split at h
  · cases h
  rename_i R hR
  split at h
  · rename_i hok
    obtain rfl := Option.some.inj h
    obtain ⟨pad, hpad, hbits⟩ := bitsOf_packBits (nestedBits e.view.clientProps.length pi R op)
    rw [nestedBits, List.cons_append, List.append_assoc, List.append_assoc, List.cons_append] at hbits
    obtain ⟨out, l, raised, h1, h2⟩ := nested_update_decodes reg e _ pi p v path R op pad hp hv hR
      (leafOKb_sound _ _ _ hok) hbits hpad
    exact ⟨p, v, R, out, l, raised, hp, hv, hR, h1, h2⟩
  · cases h

/-- the packet layout around the body: id, slice flag, length, body -/
theorem nested_payload_deserialize (jsonOk : Bytes → Bool) (id : Nat) (sl : Bool) (body : Bytes)
    (hid : id < 2 ^ 32) (hlen : body.length < 2 ^ 32) :
    deserialize jsonOk .nestedProperty (nestedPayload id sl body) = .ok (.nested id sl body) := by
  have h2 (rest : Bytes) : readIntLE 1 ((if sl then 1 else 0) :: rest) = .ok ((if sl then 1 else 0), rest) := by
    cases sl
    all_goals rfl
  simp only [deserialize, nestedPayload, List.append_assoc, List.cons_append, List.nil_append, readUIntLE_toLE 4 id _ hid, h2,
    readUIntLE_toLE 4 _ _ hlen, ok_bind, if_true, pure_eq_ok]
  cases sl
  all_goals rfl

/-- **A nested-update packet, end to end through `stepNet`**: framed payload → deserialise →
`read_and_apply` → world. For every non-wowp dialect, world, entity and encodable operation the
entity is replaced by the one with the list/dict operation applied at the path; the log grows
by the nested subscribers' calls; every other entity is untouched (`nested_world_frame`). -/
theorem nested_packet_step (jsonOk : Bytes → Bool) (cfg : Config) (w : World) (np : NetPacket) (e : Entity)
    (id pi : Nat) (path : List Nat) (op : LeafOp) (body : Bytes)
    (hgame : cfg.dialect.game ≠ .wowp) (hk : cfg.dialect.kindOf np.type = some .nestedProperty)
    (hpl : np.payload = nestedPayload id op.isSlice body) (hid : id < 2 ^ 32) (hlen : body.length < 2 ^ 32)
    (he : w.get? id = some e) (henc : encodeNested e pi path op = some body) :
    ∃ p v R out l, ∃ raised : Bool, e.view.clientProps[pi]? = some p ∧ dictGet? e.client p.name = some v ∧
      reach p.ty v path = some R ∧ leafResult R.ty.peel R.val op = some out ∧
      stepNet jsonOk cfg w np =
        ⟨{ (w.put { e with client := dictSet e.client p.name (R.rebuild out.val) }) with log := w.log ++ l },
          if raised then some .type else none⟩ := by
  obtain ⟨p, v, R, out, l, raised, h1, h2, h3, h4, h5⟩ := nested_encode_apply cfg.reg e pi path op body henc
  refine ⟨p, v, R, out, l, raised, h1, h2, h3, h4, ?_⟩
  simp only [stepNet, hk, hpl, nested_payload_deserialize jsonOk id op.isSlice body hid hlen, step_nested hgame, stepNested, he, h5]
  cases raised
  all_goals rfl

/-! Non-vacuity of `nested_update_decodes`: a concrete entity, path `crew[0].ys`, slice `1:2 := [8, 9]`.
Header bits `1 | prop 1 | 1 elem 0 | 1 field 1 | 0 | i=01 | j=10 | pad` = `EC C0`, data `08 09`. -/
def exView : EntityView :=
  { name := "E", methods := [],
    clientProps := [⟨"a", .int 1 false, 0⟩,
      ⟨"crew", .array (.fixedDict [("x", .int 1 false), ("ys", .array (.int 1 false) none)] false) none, 0⟩],
    clientPropsInternal := [], cellProps := [], baseProps := [], volatile := [] }
def exEnt : Entity :=
  { id := 7, view := exView,
    client := [("crew", .list [.dict [("x", .int 1), ("ys", .list [.int 5, .int 6, .int 7])], .dict [("x", .int 2), ("ys", .list [])]])] }

example : (applyNested {} exEnt true [0xEC, 0xC0, 8, 9]).toOption.map (·.1.client) =
    some [("crew", .list [.dict [("x", .int 1), ("ys", .list [.int 5, .int 8, .int 9, .int 7])], .dict [("x", .int 2), ("ys", .list [])]])] := by
  rfl

example : C17.bitsOf [0xEC, 0xC0] = true :: (natBits 1 1 ++ ([true, false, true, true] ++ false :: ((natBits 2 1 ++ natBits 2 2) ++ [false, false, false, false, false]))) := by
  decide +kernel

/-- the encoder produces exactly that payload, so `nested_encode_apply` / `nested_packet_step`
have a satisfiable premise -/
example : encodeNested exEnt 1 [0, 1] (.slice 1 2 [.int 8, .int 9]) = some [0xEC, 0xC0, 8, 9] := by
  decide +kernel

example : packBits [true, true, true, false, true, true, false, false, true, true] = [0xEC, 0xC0] := by decide +kernel

end ReplayModel.C06
