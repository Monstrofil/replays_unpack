/-
C15 — damaged input never hangs or crashes the parser (the part that is logic).

Every loop of the model is a recursion on bytes actually present: framing consumes ≥ 12
bytes per packet (`C02.parse_bound`), value decoding consumes at least `minBytes t` bytes per
successful value, so the element loop of nested slices — the one loop of the real code that
could spin — makes progress whenever the element type cannot be empty (`NoZeroWidth`, which
the harness evaluates on every bundled definition set). Lenient play never raises out of the
packet loop (`C12.lenient_no_raise`). Wall time, memory and the zlib / pickle cost are
measured by the harness, not proved (partial).
-/
import ReplayModel.World
import ReplayModel.Play
import ReplayProofs.Lemmas.Codec
import ReplayProofs.C02
import ReplayProofs.C12
namespace ReplayModel.C15
open ReplayModel

/-- the element type of a list can never decode from zero bytes -/
def NoZeroWidth (t : Ty) : Prop := 1 ≤ minBytes t

/-- **Progress**: a successful decode of `t` consumes at least `minBytes t` bytes and never
more than are there — for every type tree and every byte string, well-formed or not. -/
theorem decode_consumes (h : Nat) (t : Ty) : ∀ (bs rest : Bytes) (v : Val),
    decode h t bs = .ok (v, rest) → rest.length + minBytes t ≤ bs.length := by
  induction t using Ty.ind₂ (Q := fun fs => ∀ (bs rest : Bytes) (vs : List (String × Val)),
    decodeFields h fs bs = .ok (vs, rest) → rest.length + minBytesFields fs ≤ bs.length) with
  | int _ _ | f32 | f64 =>
    intro bs rest v hd
    obtain ⟨⟨n, r⟩, h1, h2⟩ := bind_eq_ok.mp hd
    cases h2
    exact Nat.le_of_eq (readUIntLE_len h1)
  | vec n =>
    intro bs rest v hd
    obtain ⟨⟨xs, r⟩, h1, h2⟩ := bind_eq_ok.mp (if_error_eq_ok.mp hd).2
    cases h2
    exact Nat.le_of_eq (readF32s_len h1)
  | blob =>
    intro bs rest v hd
    obtain ⟨⟨n, r⟩, h1, h2⟩ := bind_eq_ok.mp hd
    cases (if_error_eq_ok.mp h2).2
    exact Nat.le_trans (Nat.add_le_add_right (List.drop_sublist n r).length_le 1) (readPackedLen_len h1)
  | string | python =>
    intro bs rest v hd
    obtain ⟨⟨n, r⟩, h1, h2⟩ := bind_eq_ok.mp hd
    cases h2
    exact Nat.le_trans (Nat.add_le_add_right (List.drop_sublist n r).length_le 1) (readPackedLen_len h1)
  | mailbox =>
    intro bs rest v hd
    obtain ⟨⟨p, r⟩, h1, h2⟩ := bind_eq_ok.mp (if_error_eq_ok.mp hd).2
    cases h2
    have := congrArg List.length (readN_eq_ok.mp h1).2
    simp only [List.length_drop, List.length_append, (readN_eq_ok.mp h1).1] at this
    show rest.length + 6 ≤ bs.length
    omega
  | array e sz ih =>
    intro bs rest v hd
    cases sz with
    | some n =>
      obtain ⟨⟨vs, r⟩, h1, h2⟩ := bind_eq_ok.mp hd
      cases h2
      exact repeatRd_len ih h1
    | none =>
      obtain ⟨⟨n, r⟩, h0, h1⟩ := bind_eq_ok.mp hd
      obtain ⟨⟨vs, r'⟩, h1, h2⟩ := bind_eq_ok.mp h1
      cases h2
      have l0 := readUIntLE_len h0
      have l1 := repeatRd_len ih h1
      show rest.length + 1 ≤ bs.length
      omega
  | fixedDict fs an ih =>
    intro bs rest v hd
    have key : ∀ b, (do let (vs, r) ← decodeFields h fs b; pure (Val.dict vs, r)) = Except.ok (v, rest) →
        rest.length + minBytesFields fs ≤ b.length := by
      intro b hb
      obtain ⟨⟨vs, r⟩, h1, h2⟩ := bind_eq_ok.mp hb
      cases h2
      exact ih _ _ _ h1
    cases an with
    | false => exact key _ hd
    | true =>
      have key' := fun b hb => Nat.le_trans (Nat.add_le_add_left (Nat.min_le_right 1 _) _) (key b hb)
      rw [decode_fixedDict_allowNone] at hd
      split at hd
      · cases hd
        exact Nat.add_le_add_left (Nat.min_le_left 1 _) _
      · exact Nat.le_succ_of_le (key' _ hd)
      · exact key' _ hd
  | userType t ih =>
    intro bs rest v hd
    have := ih _ _ _ hd
    split at this
    · exact this
    · exact Nat.le_trans this (List.drop_sublist h bs).length_le
  | nil bs rest vs hd =>
    cases hd
    exact Nat.le_refl _
  | cons k t fs iht ihf bs rest vs hd =>
    obtain ⟨⟨v, r⟩, h1, h2⟩ := bind_eq_ok.mp hd
    obtain ⟨⟨ws, r'⟩, h2, h3⟩ := bind_eq_ok.mp h2
    cases h3
    have l1 := iht _ _ _ h1
    have l2 := ihf _ _ _ h2
    show rest.length + (minBytes t + minBytesFields fs) ≤ bs.length
    omega

/-- **The nested element loop terminates**: with an element type that cannot be empty the
loop never reports lack of progress, for every byte string. -/
theorem nested_loop_terminates (t : Ty) (hz : NoZeroWidth t) : ∀ (fuel : Nat) (bs : Bytes), bs.length < fuel →
    decodeAll t fuel bs ≠ .error (.inr ()) := by
  intro fuel
  induction fuel with
  | zero =>
    intro bs h
    omega
  | succ n ih =>
    intro bs hlen
    unfold decodeAll
    split
    · simp
    · split
      · simp
      · rename_i v rest hd
        have hc := decode_consumes 1 t bs rest v hd
        unfold NoZeroWidth at hz
        rw [if_neg (by omega)]
        cases hr : decodeAll t n rest with
        | ok vs => simp
        | error e =>
          cases e with
          | inl er => simp
          | inr u => exact absurd hr (ih rest (by omega))

/-- the number of elements the loop produces is bounded by the bytes present -/
theorem decodeAll_bound (t : Ty) (hz : NoZeroWidth t) : ∀ (fuel : Nat) (bs : Bytes) (vs : List Val),
    decodeAll t fuel bs = .ok vs → vs.length ≤ bs.length := by
  intro fuel
  induction fuel with
  | zero =>
    intro bs vs h
    cases h
  | succ n ih =>
    intro bs vs h
    unfold decodeAll at h
    split at h
    · cases h
      exact Nat.zero_le _
    · split at h
      · cases h
      · rename_i v rest hd
        have hc := decode_consumes 1 t bs rest v hd
        obtain ⟨ws, hr, h⟩ := bind_eq_ok.mp (if_error_eq_ok.mp h).2
        cases h
        have := ih rest ws hr
        unfold NoZeroWidth at hz
        simp only [List.length_cons]
        omega

/-- framing work is linear in the stream (`C02.parse_bound`) -/
theorem framing_linear (bs : Bytes) : 12 * (parsePackets bs).1.length ≤ bs.length := C02.parse_bound bs

/-- with the container intact, lenient play ends normally or with the short-header error of
a truncated stream — never with an exception of a packet handler -/
theorem lenient_total (jsonOk : Bytes → Bool) (cfg : Config) (w : World) (stream : Bytes) :
    (play jsonOk cfg false w stream).ending = .finished ∨ (play jsonOk cfg false w stream).ending = .headerShort :=
  C12.lenient_total jsonOk cfg w stream

/-- Non-vacuity: the types of the bundled sets are of this kind, e.g. an array of dicts. -/
example : NoZeroWidth (.fixedDict [("id", .int 1 false), ("n", .array (.int 2 true) none)] false) := by
  unfold NoZeroWidth; decide +kernel

/-- … and the hypothesis is needed: a zero-width element type makes the real loop spin -/
theorem zero_width_counterexample : decodeAll (.array (.int 1 false) (some 0)) 5 [1, 2] = .error (.inr ()) := by
  rfl

end ReplayModel.C15
