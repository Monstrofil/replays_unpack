/-
C16 — the library's own writers and readers are mutual inverses.
-/
import ReplayModel.Codec
import ReplayProofs.Lemmas.Codec
import ReplayProofs.C03
namespace ReplayModel.C16
open ReplayModel

theorem writeF32s_eq_ok {xs : List Nat} {bs : Bytes} :
    writeF32s xs = .ok bs ↔ (∀ x ∈ xs, x < 2 ^ 32) ∧ xs.flatMap (toLE 4) = bs := by
  induction xs generalizing bs with
  | nil => simp [writeF32s]
  | cons x xs ih => simp [writeF32s, if_eq_ok, bind_eq_ok, ih, and_assoc]

theorem writeLenImpl_eq_ok {n : Nat} {bs : Bytes} :
    writeLenImpl n = .ok bs ↔ n < 2 ^ 24 ∧ writePackedLen n = bs := by
  unfold writeLenImpl writePackedLen
  split
  · simp
    omega
  · split
    · simp [*]
    · simp [*]

theorem writeInt_eq_ok {k : Nat} {s : Bool} {i : Int} {bs : Bytes} :
    writeInt k s i = .ok bs ↔
      (if s then -(2 ^ (8 * k - 1) : Nat) ≤ i ∧ i < (2 ^ (8 * k - 1) : Nat) else 0 ≤ i ∧ i < (2 ^ (8 * k) : Nat)) ∧
      toLE k (ofSigned k i) = bs := by
  cases s <;> simp only [writeInt, if_eq_ok, Except.ok.injEq, Bool.false_eq_true, if_false, if_true]

theorem writeList_total (h : Nat) (e : Ty) (vs : List Val)
    (ih : ∀ v ∈ vs, writeImpl h e v = .ok (encodeWire h e v)) :
    writeList h e vs = .ok (vs.flatMap (encodeWire h e)) := by
  induction vs with
  | nil => rfl
  | cons v vs ihl =>
    obtain ⟨hv, ih⟩ := List.forall_mem_cons.mp ih
    exact bind_eq_ok.mpr ⟨_, hv, bind_eq_ok.mpr ⟨_, ihl ih, rfl⟩⟩

/-- **Totality on representable values**: every well-typed value of a writable type is
written, and what is written is exactly the wire encoding. -/
theorem write_total (h : Nat) (t : Ty) : ∀ (v : Val), t.writable = true → hasTy t v = true →
    writeImpl h t v = .ok (encodeWire h t v) := by
  induction t using Ty.ind₂ (Q := fun fs => ∀ vs, Ty.writableFields fs = true → hasTyFields fs vs = true →
    writeFields h fs vs = .ok (encodeFields h fs vs)) with
  | int k s =>
    intro v _ hv
    obtain ⟨i, rfl, -, hi⟩ := hasTy_int hv
    exact writeInt_eq_ok.mpr ⟨hi, rfl⟩
  | f32 =>
    intro v _ hv
    obtain ⟨b, rfl, hb⟩ := hasTy_f32 hv
    exact if_pos hb
  | f64 =>
    intro v _ hv
    obtain ⟨b, rfl, hb⟩ := hasTy_f64 hv
    exact if_pos hb
  | vec n =>
    intro v _ hv
    obtain ⟨xs, rfl, hl, hx⟩ := hasTy_vec hv
    exact (if_pos hl).trans (writeF32s_eq_ok.mpr ⟨hx, rfl⟩)
  | blob =>
    intro v _ hv
    obtain ⟨b, rfl, hb⟩ := hasTy_blob hv
    exact bind_eq_ok.mpr ⟨_, writeLenImpl_eq_ok.mpr ⟨hb, rfl⟩, rfl⟩
  | string =>
    intro v _ hv
    obtain ⟨b, rfl, hb⟩ := hasTy_string hv
    have hl : (do let l ← writeLenImpl b.length; pure (l ++ b)) = Except.ok (writePackedLen b.length ++ b) :=
      bind_eq_ok.mpr ⟨_, writeLenImpl_eq_ok.mpr ⟨hb, rfl⟩, rfl⟩
    unfold strOrBytes
    split
    · exact (if_pos ‹_›).trans hl
    · exact hl
  | python =>
    intro v hw
    cases hw
  | mailbox =>
    intro v _ hv
    obtain ⟨ip, p, rfl, hip, hp⟩ := hasTy_mailbox hv
    exact if_pos (by simp [ipOK, hip, hp])
  | array e sz ih =>
    intro v hw hv
    obtain ⟨vs, rfl, hl, hvs⟩ := hasTy_array hv
    have hws := writeList_total h e vs fun v hm => ih v hw (hvs v hm)
    cases sz with
    | some n => exact (if_pos hl).trans hws
    | none => exact (if_pos hl).trans (bind_eq_ok.mpr ⟨_, hws, rfl⟩)
  | fixedDict fs an ih =>
    intro v hw hv
    obtain ⟨rfl, rfl⟩ | ⟨vs, rfl, hvs⟩ := hasTy_fixedDict hv
    · rfl
    · cases an
      all_goals exact bind_eq_ok.mpr ⟨_, ih vs hw hvs, rfl⟩
  | userType t _ =>
    intro v hw
    cases hw
  | nil vs _ hv =>
    cases hasTyFields_nil hv
    rfl
  | cons k t fs iht ihf vs hw hv =>
    obtain ⟨v, ws, rfl, hv1, hv2⟩ := hasTyFields_cons hv
    obtain ⟨hw1, hw2⟩ := (Bool.and_eq_true _ _).mp hw
    exact (if_pos (beq_self_eq_true k)).trans
      (bind_eq_ok.mpr ⟨_, iht v hw1 hv1, bind_eq_ok.mpr ⟨_, ihf ws hw2 hv2, rfl⟩⟩)

theorem noUser_of_writable (t : Ty) : t.writable = true → t.noUser = true := by
  induction t using Ty.ind₂ (Q := fun fs => Ty.writableFields fs = true → Ty.noUserFields fs = true) with
  | array e sz ih => exact ih
  | fixedDict fs an ih => exact ih
  | userType t _ =>
    intro h
    cases h
  | cons k t fs iht ihf h =>
    obtain ⟨h1, h2⟩ := (Bool.and_eq_true _ _).mp h
    exact (Bool.and_eq_true _ _).mpr ⟨iht h1, ihf h2⟩
  | nil _ => rfl
  | _ =>
    intro _
    rfl

/-- **Write then read.** For every writable type, every value of that type and every
continuation: the writer succeeds, and reading back what was written yields exactly that
value and consumes exactly what was written. -/
theorem read_write (h : Nat) (t : Ty) (v : Val) (rest : Bytes)
    (hw : t.writable = true) (hv : hasTy t v = true) :
    ∃ bs, writeImpl h t v = .ok bs ∧ decode h t (bs ++ rest) = .ok (v, rest) :=
  ⟨encodeWire h t v, write_total h t v hw hv,
    C03.decode_encode_noUser h t v rest hv (noUser_of_writable t hw)⟩

theorem writeList_sound (h : Nat) (e : Ty) (vs : List Val) (bs : Bytes)
    (ih : ∀ v b, writeImpl h e v = .ok b →
      hasTy e (norm e v) = true ∧ userOK h e (norm e v) = true ∧ b = encodeWire h e (norm e v))
    (hw : writeList h e vs = .ok bs) :
    (vs.map (norm e)).all (hasTy e) = true ∧ (vs.map (norm e)).all (userOK h e) = true ∧
      bs = (vs.map (norm e)).flatMap (encodeWire h e) := by
  induction vs generalizing bs with
  | nil =>
    cases hw
    exact ⟨rfl, rfl, rfl⟩
  | cons v vs ihl =>
    obtain ⟨a, ha, hw⟩ := bind_eq_ok.mp hw
    obtain ⟨b, hb, hw⟩ := bind_eq_ok.mp hw
    cases hw
    obtain ⟨h1, h2, rfl⟩ := ih v a ha
    obtain ⟨g1, g2, rfl⟩ := ihl b hb
    simp [h1, h2, g1, g2]

/-- **Soundness of the writer (refusal).** Whenever the writer succeeds, the bytes it
produced are the wire encoding of `norm t v`, a well-typed value: nothing that is not
representable is ever written, and what is read back is `norm t v` (`write_read_norm`). -/
theorem write_sound (h : Nat) (t : Ty) : ∀ (v : Val) (bs : Bytes), t.wf = true →
    writeImpl h t v = .ok bs →
    hasTy t (norm t v) = true ∧ userOK h t (norm t v) = true ∧ bs = encodeWire h t (norm t v) := by
  induction t using Ty.ind₂ (Q := fun fs => ∀ vs b, Ty.wfFields fs = true → writeFields h fs vs = .ok b →
    hasTyFields fs (normFields fs vs) = true ∧ userOKFields h fs (normFields fs vs) = true ∧
      b = encodeFields h fs (normFields fs vs)) with
  | int k s =>
    intro v bs hwf hw
    cases v with
    | int i =>
      obtain ⟨hi, rfl⟩ := writeInt_eq_ok.mp hw
      have hk : 0 < k := by
        have : okIntSize k = true := hwf
        simp only [okIntSize, Bool.or_eq_true, decide_eq_true_eq] at this
        omega
      refine ⟨(Bool.and_eq_true _ _).mpr ⟨decide_eq_true hk, ?_⟩, rfl, rfl⟩
      cases s
      all_goals exact decide_eq_true hi
    | _ => cases hw
  | f32 =>
    intro v bs _ hw
    cases v with
    | f32 b =>
      obtain ⟨hb, hw⟩ := if_eq_ok.mp hw
      cases hw
      exact ⟨decide_eq_true hb, rfl, rfl⟩
    | _ => cases hw
  | f64 =>
    intro v bs _ hw
    cases v with
    | f64 b =>
      obtain ⟨hb, hw⟩ := if_eq_ok.mp hw
      cases hw
      exact ⟨decide_eq_true hb, rfl, rfl⟩
    | _ => cases hw
  | vec n =>
    intro v bs _ hw
    cases v with
    | vec xs =>
      obtain ⟨hl, hw⟩ := if_eq_ok.mp hw
      obtain ⟨hx, rfl⟩ := writeF32s_eq_ok.mp hw
      exact ⟨(Bool.and_eq_true _ _).mpr ⟨decide_eq_true hl, List.all_eq_true.mpr fun x h => decide_eq_true (hx x h)⟩,
        rfl, rfl⟩
    | _ => cases hw
  | blob =>
    intro v bs _ hw
    cases v with
    | bytes b =>
      obtain ⟨l, hl, hw⟩ := bind_eq_ok.mp hw
      cases hw
      obtain ⟨hb, rfl⟩ := writeLenImpl_eq_ok.mp hl
      exact ⟨decide_eq_true hb, rfl, rfl⟩
    | _ => cases hw
  | string =>
    intro v bs _ hw
    cases v with
    | bytes b =>
      obtain ⟨l, hl, hw⟩ := bind_eq_ok.mp hw
      cases hw
      obtain ⟨hb, rfl⟩ := writeLenImpl_eq_ok.mp hl
      exact ⟨hasTy_strOrBytes hb, rfl, (encodeWire_strOrBytes h b).symm⟩
    | str b =>
      obtain ⟨hu, hw⟩ := if_eq_ok.mp hw
      obtain ⟨l, hl, hw⟩ := bind_eq_ok.mp hw
      cases hw
      obtain ⟨hb, rfl⟩ := writeLenImpl_eq_ok.mp hl
      exact ⟨(Bool.and_eq_true _ _).mpr ⟨decide_eq_true hb, hu⟩, rfl, rfl⟩
    | _ => cases hw
  | python =>
    intro v bs _ hw
    cases v <;> cases hw
  | mailbox =>
    intro v bs _ hw
    cases v with
    | mailbox ip p =>
      obtain ⟨hc, hw⟩ := if_eq_ok.mp hw
      cases hw
      exact ⟨hc, rfl, rfl⟩
    | _ => cases hw
  | array e sz ih =>
    intro v bs hwf hw
    cases v with
    | list vs =>
      cases sz with
      | some n =>
        obtain ⟨hl, hw⟩ := if_eq_ok.mp hw
        obtain ⟨g1, g2, g3⟩ := writeList_sound h e vs bs (fun v b => ih v b hwf) hw
        exact ⟨(Bool.and_eq_true _ _).mpr ⟨decide_eq_true ((List.length_map _).trans hl), g1⟩, g2, g3⟩
      | none =>
        obtain ⟨hl, hw⟩ := if_eq_ok.mp hw
        obtain ⟨b, hb, hw⟩ := bind_eq_ok.mp hw
        cases hw
        obtain ⟨g1, g2, rfl⟩ := writeList_sound h e vs b (fun v b => ih v b hwf) hb
        refine ⟨(Bool.and_eq_true _ _).mpr ⟨decide_eq_true (by rwa [List.length_map]), g1⟩, g2, ?_⟩
        show _ = UInt8.ofNat (vs.map (norm e)).length :: _
        rw [List.length_map]
    | _ =>
      cases sz
      all_goals cases hw
  | fixedDict fs an ih =>
    intro v bs hwf hw
    cases v with
    | none =>
      cases an
      · cases hw
      · cases hw
        exact ⟨rfl, rfl, rfl⟩
    | dict vs =>
      obtain ⟨b, hb, hw⟩ := bind_eq_ok.mp hw
      cases hw
      obtain ⟨k1, k2, rfl⟩ := ih vs b hwf hb
      cases an
      all_goals exact ⟨k1, k2, rfl⟩
    | _ => cases hw
  | userType t _ =>
    intro v bs _ hw
    cases v <;> cases hw
  | nil vs b _ hw =>
    cases vs with
    | nil =>
      cases hw
      exact ⟨rfl, rfl, rfl⟩
    | cons _ _ => cases hw
  | cons k t fs iht ihf vs b hwf hw =>
    cases vs with
    | nil => cases hw
    | cons p ws =>
      obtain ⟨k', v⟩ := p
      obtain ⟨hk, hw⟩ := if_eq_ok.mp hw
      obtain ⟨a, ha, hw⟩ := bind_eq_ok.mp hw
      obtain ⟨c, hc, hw⟩ := bind_eq_ok.mp hw
      cases hw
      obtain ⟨hwf1, hwf2⟩ := (Bool.and_eq_true _ _).mp hwf
      obtain ⟨h1, h2, rfl⟩ := iht v a hwf1 ha
      obtain ⟨g1, g2, rfl⟩ := ihf ws c hwf2 hc
      exact ⟨(Bool.and_eq_true _ _).mpr ⟨(Bool.and_eq_true _ _).mpr ⟨hk, h1⟩, g1⟩, (Bool.and_eq_true _ _).mpr ⟨h2, g2⟩, rfl⟩

/-- **Write then read, in general**: whatever the writer accepts reads back as `norm t v`
and consumes exactly what was written. -/
theorem write_read_norm (h : Nat) (t : Ty) (v : Val) (bs rest : Bytes) (hwf : t.wf = true)
    (hw : writeImpl h t v = .ok bs) : decode h t (bs ++ rest) = .ok (norm t v, rest) := by
  obtain ⟨h1, h2, h3⟩ := write_sound h t v bs hwf hw
  rw [h3]
  exact C03.decode_encode h t (norm t v) rest h1 h2

/-- `norm` is the identity on well-typed values: there the writer and the reader are exact
mutual inverses (`read_write`). -/
theorem norm_id (t : Ty) : ∀ v, hasTy t v = true → norm t v = v := by
  induction t using Ty.ind₂ (Q := fun fs => ∀ vs, hasTyFields fs vs = true → normFields fs vs = vs) with
  | string =>
    intro v hv
    obtain ⟨b, rfl, -⟩ := hasTy_string hv
    unfold strOrBytes
    split
    · rfl
    · exact if_neg ‹_›
  | array e sz ih =>
    intro v hv
    obtain ⟨vs, rfl, -, hvs⟩ := hasTy_array hv
    show Val.list (vs.map (norm e)) = _
    rw [List.map_congr_left fun x hx => ih x (hvs x hx), List.map_id']
  | fixedDict fs an ih =>
    intro v hv
    obtain ⟨-, rfl⟩ | ⟨vs, rfl, hvs⟩ := hasTy_fixedDict hv
    · rfl
    · exact congrArg Val.dict (ih vs hvs)
  | userType t ih => exact ih
  | nil vs _ => rfl
  | cons k t fs iht ihf vs hv =>
    obtain ⟨v, ws, rfl, h1, h2⟩ := hasTyFields_cons hv
    show (k, norm t v) :: normFields fs ws = _
    rw [iht v h1, ihf ws h2]
  | _ =>
    intro v _
    rfl

/-- The one place where the writer accepts a value that reads back as something else
(known finding C16 `string-bytes-valid-utf8`): a `bytes` payload of a STRING that
happens to be valid UTF-8 is read back as text. -/
theorem string_bytes_counterexample :
    writeImpl 1 .string (.bytes [0x61]) = .ok [1, 0x61] ∧
    decode 1 .string [1, 0x61] = .ok (.str [0x61], []) := by
  constructor <;> rfl

/-- argument lists: every argument writable and well-typed, same arity -/
def hasTyArgs : List Ty → List Val → Bool
  | [], [] => true
  | t :: ts, v :: vs => t.writable && hasTy t v && hasTyArgs ts vs
  | _, _ => false

theorem hasTyArgs_length (ts : List Ty) (vs : List Val) (h : hasTyArgs ts vs = true) :
    ts.length = vs.length := by
  induction ts generalizing vs with
  | nil => cases vs <;> simp_all [hasTyArgs]
  | cons t ts ih =>
    cases vs with
    | nil => simp [hasTyArgs] at h
    | cons v vs =>
      simp only [hasTyArgs, Bool.and_eq_true] at h
      simp [ih vs h.2]

/-- **Method argument lists**: `write_to_stream(*args)` followed by `create_from_stream`
returns the arguments and consumes exactly what was written (any arity, any header size). -/
theorem method_write_read (h : Nat) (ts : List Ty) (vs : List Val) (rest : Bytes)
    (hv : hasTyArgs ts vs = true) :
    ∃ bs, writeArgs h ts vs = .ok bs ∧ decodeArgs h ts (bs ++ rest) = .ok (vs, rest) := by
  unfold writeArgs
  rw [if_pos (hasTyArgs_length ts vs hv)]
  induction ts generalizing vs with
  | nil =>
    cases vs with
    | nil => exact ⟨[], rfl, rfl⟩
    | cons v vs => simp [hasTyArgs] at hv
  | cons t ts ih =>
    cases vs with
    | nil => simp [hasTyArgs] at hv
    | cons v vs =>
      simp only [hasTyArgs, Bool.and_eq_true] at hv
      obtain ⟨⟨hw, h1⟩, h2⟩ := hv
      obtain ⟨bs2, g1, g2⟩ := ih vs h2
      obtain ⟨bs1, f1, f2⟩ := read_write h t v (bs2 ++ rest) hw h1
      refine ⟨bs1 ++ bs2, ?_, ?_⟩
      · simp only [writeArgsAux, f1, g1, ok_bind, pure_eq_ok]
      · simp only [decodeArgs, List.append_assoc, f2, g2, ok_bind, pure_eq_ok]

/-- a wrong number of arguments is refused before anything is written -/
theorem method_arity (h : Nat) (ts : List Ty) (vs : List Val) (hl : ts.length ≠ vs.length) :
    writeArgs h ts vs = .error .other := by
  simp [writeArgs, hl]

/-- PYTHON and USER_TYPE values cannot be written (NotImplementedError). -/
theorem write_unsupported (h : Nat) (v : Val) (t : Ty) :
    writeImpl h .python v = .error .notImplemented ∧
    writeImpl h (.userType t) v = .error .notImplemented := by
  constructor <;> cases v <;> rfl

/-- Non-vacuity for `read_write`. -/
example : (Ty.fixedDict [("a", .array .string none), ("b", .fixedDict [("x", .int 8 true)] true)] false).writable = true
    ∧ hasTy (.fixedDict [("a", .array .string none), ("b", .fixedDict [("x", .int 8 true)] true)] false)
        (.dict [("a", .list [.str [0xC3, 0xA9], .bytes [0xFF]]), ("b", .none)]) = true := by
  decide +kernel

/-- looking a key up does not depend on the order in which the (distinct) keys were inserted -/
theorem payloadGet_perm (p p' : List (String × Val)) (hperm : p.Perm p') (hnd : (p.map (·.1)).Nodup) (k : String) :
    payloadGet? p' k = payloadGet? p k := by
  unfold payloadGet?
  rw [find?_perm (·.1) k hperm hnd]

/-- **The bytes written for a dict depend on the mapping, not on the insertion order of its keys**:
two payloads that are permutations of each other (distinct keys) are written identically — the
fields go out in the order of the *definition*, which is the order the reader expects. -/
theorem writeDict_order_irrelevant (h : Nat) (fs : List (String × Ty)) (an : Bool) (p p' : List (String × Val))
    (hperm : p.Perm p') (hnd : (p.map (·.1)).Nodup) :
    writeDictPayload h fs an p' = writeDictPayload h fs an p := by
  have ho : orderDict fs p' = orderDict fs p := by
    unfold orderDict
    rw [hperm.length_eq.symm]
    split
    · rfl
    · congr 1
      funext f
      rw [payloadGet_perm p p' hperm hnd f.1]
  unfold writeDictPayload
  rw [ho]

/-- a payload already in definition order is what `writeImpl` gets -/
example : orderDict [("a", .int 1 false), ("b", .int 2 false)] [("b", .int 7), ("a", .int 3)] = some [("a", .int 3), ("b", .int 7)] := by
  rfl

end ReplayModel.C16
