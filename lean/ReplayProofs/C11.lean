/-
C11 — the replay version selects matching definitions, controller and packet table.
-/
import ReplayModel.Version
import ReplayModel.Pipeline
namespace ReplayModel.C11
open ReplayModel

/-- **4-then-3 resolution**: the four-component version if bundled, otherwise the
three-component one if bundled, otherwise refusal. -/
theorem resolve_spec (bundled : List String) (comps : List String) :
    (underscored comps 4 ∈ bundled → resolve bundled comps = some (underscored comps 4)) ∧
    (underscored comps 4 ∉ bundled → underscored comps 3 ∈ bundled →
      resolve bundled comps = some (underscored comps 3)) ∧
    (underscored comps 4 ∉ bundled → underscored comps 3 ∉ bundled → resolve bundled comps = none) := by
  unfold resolve
  refine ⟨?_, ?_, ?_⟩
  · intro h; simp [h]
  · intro h4 h3; simp [h4, h3]
  · intro h4 h3; simp [h4, h3]

/-- whatever is selected is bundled: never some other version's data -/
theorem resolve_mem (bundled : List String) (comps : List String) (v : String)
    (h : resolve bundled comps = some v) : v ∈ bundled ∧ (v = underscored comps 4 ∨ v = underscored comps 3) := by
  unfold resolve at h
  split at h
  · rename_i h4; cases h; exact ⟨by simpa using h4, Or.inl rfl⟩
  · split at h
    · rename_i h3; cases h; exact ⟨by simpa using h3, Or.inr rfl⟩
    · cases h

theorem resolve_congr (l l' : List String) (comps : List String)
    (h4 : underscored comps 4 ∈ l ↔ underscored comps 4 ∈ l') (h3 : underscored comps 3 ∈ l ↔ underscored comps 3 ∈ l') :
    resolve l comps = resolve l' comps := by
  simp only [resolve, List.contains_eq_mem, h4, h3]

theorem selectWows_ok {b : Bundled} {comps : List String} {s : Selection} (h : selectWows b comps = .ok s) :
    resolve b.modules comps = some s.controller ∧ resolve b.defs comps = some s.defs ∧
      usesNewTable comps = some s.newTable := by
  unfold selectWows at h
  repeat' split at h
  all_goals cases h
  exact ⟨‹_›, ‹_›, ‹_›⟩

/-- **Definitions and controller come from the same bundled version** whenever the two
bundled sets agree on the two candidate names (the agreement itself is a fact about the
tree, evaluated on the directory listing by the harness on every run; the only bundled
disagreement is wowp 0_3_3, which has definitions but no controller and is refused). -/
theorem defs_ctrl_same (b : Bundled) (comps : List String) (s : Selection)
    (h4 : (underscored comps 4 ∈ b.modules ↔ underscored comps 4 ∈ b.defs))
    (h3 : (underscored comps 3 ∈ b.modules ↔ underscored comps 3 ∈ b.defs))
    (h : selectWows b comps = .ok s) : s.controller = s.defs := by
  obtain ⟨hc, hd, _⟩ := selectWows_ok h
  rw [resolve_congr _ _ comps h4 h3, hd] at hc
  exact (Option.some.inj hc).symm

/-- an unbundled version is refused, not played with another version's data -/
theorem unsupported_refused (b : Bundled) (comps : List String)
    (h4 : underscored comps 4 ∉ b.modules) (h3 : underscored comps 3 ∉ b.modules) :
    selectWows b comps = .error (.notSupportedController (underscored comps 3)) ∧
    selectWowp b comps = .error (.notSupportedController (underscored comps 3)) := by
  have : resolve b.modules comps = none := (resolve_spec b.modules comps).2.2 h4 h3
  constructor <;> simp [selectWows, selectWowp, this]

/-- the controller exists but the definitions do not: refused with the loader's message -/
theorem missing_defs_refused (b : Bundled) (comps : List String) (c : String)
    (hc : resolve b.modules comps = some c) (hk : c ∈ b.controllers)
    (h4 : underscored comps 4 ∉ b.defs) (h3 : underscored comps 3 ∉ b.defs) :
    selectWows b comps = .error .notSupportedDefs := by
  have : resolve b.defs comps = none := (resolve_spec b.defs comps).2.2 h4 h3
  simp [selectWows, hc, hk, this]

theorem releaseGE_cons (x y : Nat) (xs ys : List Nat) :
    releaseGE (x :: xs) (y :: ys) = (decide (x > y) || decide (x = y) && releaseGE xs ys) := by
  rw [releaseGE]
  by_cases h1 : x > y
  · simp [h1]
  · by_cases h2 : x < y
    · simp [h1, h2, Nat.ne_of_lt h2]
    · simp [Nat.le_antisymm (Nat.le_of_not_gt h1) (Nat.le_of_not_gt h2)]

theorem releaseGE_zero (xs : List Nat) : releaseGE xs [0] = true := by
  cases xs with
  | nil => rfl
  | cons c rest =>
    rw [releaseGE_cons]
    cases c
    · cases rest <;> rfl
    · rfl

theorem releaseGE_12_6_0 (a b : Nat) (rest : List Nat) :
    releaseGE (a :: b :: rest) [12, 6, 0] = decide (a > 12 ∨ (a = 12 ∧ b ≥ 6)) := by
  rw [releaseGE_cons, releaseGE_cons, releaseGE_zero, Bool.eq_iff_iff]
  simp only [Bool.and_true, Bool.or_eq_true, Bool.and_eq_true, decide_eq_true_eq]
  omega

/-- **wows versions from 12.6.0 on use the renumbered table, earlier ones the old one** —
for every build number. -/
theorem table_switch (a b c d : Nat) (sa sb sc sd : String)
    (ha : natOf? sa = some a) (hb : natOf? sb = some b) (hc : natOf? sc = some c) (hd : natOf? sd = some d) :
    usesNewTable [sa, sb, sc, sd] = some (decide (a > 12 ∨ (a = 12 ∧ b ≥ 6))) ∧
    usesNewTable [sa, sb, sc] = some (decide (a > 12 ∨ (a = 12 ∧ b ≥ 6))) := by
  unfold usesNewTable
  simp only [List.mapM_cons, List.mapM_nil, ha, hb, hc, hd, bind, Option.bind, pure]
  exact ⟨congrArg some (releaseGE_12_6_0 a b _), congrArg some (releaseGE_12_6_0 a b _)⟩

example : normWows "0,10, 7, 4373750" = ["0", "10", "7", "4373750"] := by decide +kernel
example : normWowp "World of Warplanes 2.1.17.1234" = ["2", "1", "17", "1234"] := by decide +kernel
example : normWot "World of Tanks v.1.8.0.2 #252" = "1.8.0" := by decide +kernel

/-- Non-vacuity of `defs_ctrl_same`; and why its hypothesis is needed (a hypothetical tree in
which a build-specific controller has no definitions of its own). -/
example : (selectWows ⟨["0_9_4", "0_9_4_2442770"], ["0_9_4", "0_9_4_2442770"], ["0_9_4", "0_9_4_2442770"]⟩
    ["0", "9", "4", "2442770"] |>.toOption) = some ⟨"0_9_4_2442770", "0_9_4_2442770", false⟩ := by decide +kernel

theorem split_bundle_example :
    (selectWows ⟨["13_0_0"], ["13_0_0", "13_0_0_7983292"], ["13_0_0", "13_0_0_7983292"]⟩
      ["13", "0", "0", "7983292"] |>.toOption) = some ⟨"13_0_0_7983292", "13_0_0", true⟩ := by decide +kernel

/-- **A version that does not resolve is refused at the top level**: strict mode raises,
lenient mode returns no summary, with the loader's "not supported" text where the refusal is a
`RuntimeError` — and no packet of the stream is played with some other version's data. -/
theorem getInfo_refused (env : Env) (strict : Bool) (ext : String) (file : Bytes) (info : ReplayInfo) (vs : String)
    (r : Refusal) (hc : readContainer env.D env.inflate ext file = .ok info)
    (hv : env.versionOf info.game info.engine = some vs)
    (hs : selectVersion env.bundled info.game vs = .error r) :
    getInfo env strict ext file = if strict then .raises else .returns info none r.message := by
  unfold getInfo
  simp only [hc, hv, hs]

/-- **What is played is exactly the selection**: when the version resolves, the hidden result
(when there is one) is the play of the file's stream with the definitions directory, the
controller module and the packet table of that one `Selection` — both loaders are asked for the
names the resolution returned, nothing else. -/
theorem getInfo_uses_selection (env : Env) (strict : Bool) (ext : String) (file : Bytes) (info info' : ReplayInfo) (vs : String)
    (sel : Selection) (res : PlayResult) (error : Option String)
    (hc : readContainer env.D env.inflate ext file = .ok info)
    (hv : env.versionOf info.game info.engine = some vs)
    (hs : selectVersion env.bundled info.game vs = .ok sel)
    (h : getInfo env strict ext file = .returns info' (some res) error) :
    info' = info ∧ error = none ∧
    res = play env.jsonOk { defs := env.defsOf info.game sel.defs, masks := env.masks,
                            dialect := dialectOf info.game sel, reg := env.regOf info.game sel.controller } strict {} info.stream := by
  unfold getInfo at h
  simp only [hc, hv, hs] at h
  cases he : (play env.jsonOk (configOf env info.game sel) strict {} info.stream).ending with
  | finished =>
    rw [he] at h
    simp only [GetInfo.returns.injEq, Option.some.injEq] at h
    exact ⟨h.1.symm, h.2.2.symm, h.2.1.symm⟩
  | headerShort => rw [he] at h; cases strict <;> simp at h
  | raised i e => rw [he] at h; cases strict <;> simp at h

/-- the wows table switch seen from the top: the dialect is the renumbered one iff the version is ≥ 12.6.0 -/
theorem dialectOf_wows (sel : Selection) :
    dialectOf .wows sel = if sel.newTable then wowsNew else wowsOld := rfl


end ReplayModel.C11
