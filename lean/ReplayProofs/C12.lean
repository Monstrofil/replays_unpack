/-
C12 — strict mode fails fast, lenient mode skips exactly the failing packets.
-/
import ReplayModel.World
import ReplayModel.Play
import ReplayProofs.Lemmas.Step
import ReplayProofs.C05
import ReplayModel.Pipeline
namespace ReplayModel.C12
open ReplayModel

variable (jsonOk : Bytes → Bool) (cfg : Config)

/-- no packet of `ps` fails when played from `w` -/
def NoFail : World → List NetPacket → Prop
  | _, [] => True
  | w, np :: rest => (stepNet jsonOk cfg w np).err = none ∧ NoFail (stepNet jsonOk cfg w np).world rest

/-- the world after playing a fault-free list -/
def runAll : World → List NetPacket → World
  | w, [] => w
  | w, np :: rest => runAll (stepNet jsonOk cfg w np).world rest

/-- **Fault-free stream: both modes give identical results.** -/
theorem modes_agree (ps : List NetPacket) : ∀ (w : World) (i : Nat) (failed : List (Nat × Err)),
    NoFail jsonOk cfg w ps →
    playPackets jsonOk cfg true w i ps failed = playPackets jsonOk cfg false w i ps failed ∧
    playPackets jsonOk cfg false w i ps failed = (runAll jsonOk cfg w ps, none, failed) := by
  induction ps with
  | nil => intro w i failed _; exact ⟨rfl, rfl⟩
  | cons np rest ih =>
    intro w i failed h
    rw [playPackets_cons_ok h.1, playPackets_cons_ok h.1]
    exact ih _ _ _ h.2

/-- **Lenient mode never raises out of the packet loop.** -/
theorem lenient_no_raise (ps : List NetPacket) : ∀ (w : World) (i : Nat) (failed : List (Nat × Err)),
    (playPackets jsonOk cfg false w i ps failed).2.1 = none :=
  playPackets_lenient_none jsonOk cfg ps

/-- so a lenient play ends `finished`, or `headerShort` when the stream ends inside a header -/
theorem lenient_total (w : World) (stream : Bytes) :
    (play jsonOk cfg false w stream).ending = .finished ∨ (play jsonOk cfg false w stream).ending = .headerShort := by
  unfold play
  simp only [lenient_no_raise]
  cases (parsePackets stream).2 <;> simp [endingOf]

/-- **Strict mode fails fast.** Either nothing fails (and the result is the lenient one), or
the list splits as `pre ++ np :: post` where `pre` is fault-free, `np` fails with `e`, the
reported exception is that of `np` (index `i + |pre|`), and the world is the one reached
after `pre` plus whatever `np` changed before failing — nothing of `post` is applied. -/
theorem strict_prefix (ps : List NetPacket) : ∀ (w : World) (i : Nat) (failed : List (Nat × Err)),
    (NoFail jsonOk cfg w ps ∧ playPackets jsonOk cfg true w i ps failed = (runAll jsonOk cfg w ps, none, failed)) ∨
    (∃ pre np post e, ps = pre ++ np :: post ∧ NoFail jsonOk cfg w pre ∧
      (stepNet jsonOk cfg (runAll jsonOk cfg w pre) np).err = some e ∧
      playPackets jsonOk cfg true w i ps failed =
        ((stepNet jsonOk cfg (runAll jsonOk cfg w pre) np).world, some (i + pre.length, e),
         failed ++ [(i + pre.length, e)])) := by
  induction ps with
  | nil => intro w i failed; exact Or.inl ⟨trivial, rfl⟩
  | cons np rest ih =>
    intro w i failed
    cases hr : (stepNet jsonOk cfg w np).err with
    | some e =>
      refine Or.inr ⟨[], np, rest, e, rfl, trivial, hr, ?_⟩
      rw [playPackets_cons_err hr]
      rfl
    | none =>
      rw [playPackets_cons_ok hr]
      rcases ih (stepNet jsonOk cfg w np).world (i + 1) failed with ⟨hn, hp⟩ | ⟨pre, np', post, e, hps, hn, he, hp⟩
      · exact Or.inl ⟨⟨hr, hn⟩, hp⟩
      · refine Or.inr ⟨np :: pre, np', post, e, by rw [hps]; rfl, ⟨hr, hn⟩, he, ?_⟩
        rw [hp, Nat.add_right_comm]
        rfl

/-- the packets that do not fail along the lenient run -/
def survivors : World → List NetPacket → List NetPacket
  | _, [] => []
  | w, np :: rest =>
    if (stepNet jsonOk cfg w np).err.isNone then np :: survivors (stepNet jsonOk cfg w np).world rest
    else survivors (stepNet jsonOk cfg w np).world rest

/-- every failure along the lenient run is clean: the failing packet left the world as it was -/
def AllClean : World → List NetPacket → Prop
  | _, [] => True
  | w, np :: rest =>
    ((stepNet jsonOk cfg w np).err ≠ none → (stepNet jsonOk cfg w np).world = w) ∧
    AllClean (stepNet jsonOk cfg w np).world rest

/-- **Lenient mode skips exactly the failing packets.** When the failing packets are clean,
the lenient result is the result of the stream without them, which plays without any failure
(in either mode), every later packet being applied exactly as there. -/
theorem lenient_eq_filtered (ps : List NetPacket) : ∀ (w : World) (i : Nat) (failed : List (Nat × Err)),
    AllClean jsonOk cfg w ps →
    NoFail jsonOk cfg w (survivors jsonOk cfg w ps) ∧
    (playPackets jsonOk cfg false w i ps failed).1 = runAll jsonOk cfg w (survivors jsonOk cfg w ps) := by
  induction ps with
  | nil => intro w i failed _; exact ⟨trivial, rfl⟩
  | cons np rest ih =>
    intro w i failed hc
    obtain ⟨hclean, hrest⟩ := hc
    cases hr : (stepNet jsonOk cfg w np).err with
    | none =>
      rw [playPackets_cons_ok hr]
      simp only [survivors, hr, Option.isNone_none, if_true]
      obtain ⟨h1, h2⟩ := ih (stepNet jsonOk cfg w np).world (i + 1) failed hrest
      exact ⟨⟨hr, h1⟩, h2⟩
    | some e =>
      rw [playPackets_cons_err hr]
      simp only [survivors, hr, Option.isNone_some, Bool.false_eq_true, if_false]
      have hw : (stepNet jsonOk cfg w np).world = w := hclean (by rw [hr]; nofun)
      rw [hw] at hrest ⊢
      exact ih w (i + 1) _ hrest

/-! ### the failures the property names are clean -/

/-- `put` of the stored entity changes nothing (keys are unique) -/
theorem put_stored (w : World) (id : Int) (e : Entity) (hwf : w.WF)
    (hn : (w.entities.map (·.1)).Nodup) (hg : w.get? id = some e) : w.put e = w := by
  rw [← World.get_wf w hwf id e hg] at hg
  show ({ w with entities := upsert w.entities e.id fun _ => e } : World) = w
  rw [upsert_stored w.entities e.id e hn hg]

/-- world invariant used by the clean-failure theorems; holds in every reachable world
(`C05.step_wf`, `C05.step_nodup`) -/
def Inv (w : World) : Prop := w.WF ∧ C05.NodupIds w

theorem inv_step (w : World) (p : Packet) (h : Inv w) : Inv (step cfg w p).world :=
  ⟨C05.step_wf cfg w p h.1, C05.step_nodup cfg w p h.2⟩

theorem inv_empty : Inv {} := by
  refine ⟨?_, ?_⟩
  · exact World.wf_empty
  · unfold C05.NodupIds; exact List.nodup_nil

/-- **Unknown entity**: property update, method call, nested update, position — the packet
fails and leaves no trace. -/
theorem unknown_entity_clean (w : World) (id : Int) (hn : w.get? id = none) (idx : Nat) (data : Bytes)
    (sl : Bool) (pose : Pose) :
    stepEntityProperty cfg w id idx data = fail w .unknownEntity ∧
    stepEntityMethod cfg w id idx data = fail w .unknownEntity ∧
    stepNested cfg w id sl data = fail w .unknownEntity ∧
    stepPosition w id pose = fail w .unknownEntity := by
  refine ⟨?_, ?_, ?_, ?_⟩
  · unfold stepEntityProperty; simp [hn]
  · unfold stepEntityMethod; simp [hn]
  · unfold stepNested; simp [hn]
  · unfold stepPosition; simp [hn]

/-- **Method id out of range**: fails, no trace. -/
theorem method_index_clean (w : World) (id : Int) (e : Entity) (idx : Nat) (data : Bytes)
    (he : w.get? id = some e) (hi : e.view.methods[idx]? = none) :
    stepEntityMethod cfg w id idx data = fail w .badIndex := by
  unfold stepEntityMethod methodCall
  simp [he, hi]

/-- **Undecodable arguments of a subscribed call**: fails before any callback, no trace. -/
theorem method_undecodable_clean (w : World) (id : Int) (e : Entity) (idx : Nat) (data : Bytes) (m : MethodDef)
    (s : Sub) (ss : List Sub) (er : Err) (he : w.get? id = some e) (hm : e.view.methods[idx]? = some m)
    (hs : dictGet? cfg.reg.methods (e.view.name ++ "_" ++ m.name) = some (s :: ss))
    (hd : decodeArgs m.header (m.args.map (·.2)) data = .error er) :
    stepEntityMethod cfg w id idx data = fail w er := by
  unfold stepEntityMethod methodCall
  simp [he, hm, hs, hd]

/-- **Property id out of range / undecodable value**: the value is decoded before anything is
assigned, so the failing update leaves the world exactly as it was. -/
theorem property_failure_clean (w : World) (id : Int) (e : Entity) (idx : Nat) (data : Bytes) (hinv : Inv w)
    (he : w.get? id = some e)
    (hbad : e.view.clientProps[idx]? = none ∨
      ∃ p er, e.view.clientProps[idx]? = some p ∧ decode 1 p.ty data = .error er) :
    (stepEntityProperty cfg w id idx data).err ≠ none ∧ (stepEntityProperty cfg w id idx data).world = w := by
  have hput : w.put e = w := put_stored w id e hinv.1 hinv.2 he
  unfold stepEntityProperty
  simp only [he]
  rcases hbad with hi | ⟨p, er, hp, hd⟩
  · have : setClientProperty cfg.reg e idx data = (e, data, [], some .badIndex) := by
      unfold setClientProperty; simp [hi]
    rw [this]
    simp [hput]
  · have : setClientProperty cfg.reg e idx data = (e, data, [], some er) := by
      unfold setClientProperty; simp [hp, hd]
    rw [this]
    simp [hput]

/-- Non-vacuity: a stream with one failing packet between two good ones (unmapped packets
are good) has a non-trivial `survivors` list. -/
example : survivors (fun _ => true) ⟨⟨[]⟩, {}, wowsOld, {}⟩ {}
    [⟨0x99, 0, [], 0⟩, ⟨0x7, 0, [1, 0, 0, 0, 0, 0, 0, 0, 0, 0, 0, 0], 12⟩, ⟨0x98, 0, [], 0⟩]
    = [⟨0x99, 0, [], 0⟩, ⟨0x98, 0, [], 0⟩] := by
  decide +kernel

/-- the failures recorded for `n` copies of a packet that fails with `e`, starting at index `i` -/
def runFailures (i n : Nat) (e : Err) : List (Nat × Err) := (List.range n).map (fun k => (i + k, e))

theorem runFailures_succ (i n : Nat) (e : Err) : runFailures i (n + 1) e = (i, e) :: runFailures (i + 1) n e := by
  simp only [runFailures, List.range_succ_eq_map, List.map_cons, List.map_map]
  refine congrArg _ (List.map_congr_left fun k _ => ?_)
  show (i + k + 1, e) = (i + 1 + k, e)
  rw [Nat.add_right_comm]

/-- **A run of failing packets of any length is skipped one by one**: `n` copies of a packet that
fails without changing the world are each recorded as failed, the world stays as it was, and
playing continues with whatever follows — there is no count after which lenient mode gives up. -/
theorem lenient_run_of_failures (np : NetPacket) (e : Err) (rest : List NetPacket) :
    ∀ (n : Nat) (w : World) (i : Nat) (failed : List (Nat × Err)),
    (stepNet jsonOk cfg w np).err = some e → (stepNet jsonOk cfg w np).world = w →
    playPackets jsonOk cfg false w i (List.replicate n np ++ rest) failed =
      playPackets jsonOk cfg false w (i + n) rest (failed ++ runFailures i n e) := by
  intro n
  induction n with
  | zero => intro w i failed _ _; simp [runFailures]
  | succ n ih =>
    intro w i failed he hw
    rw [List.replicate_succ, List.cons_append, playPackets_cons_err he, if_neg Bool.false_ne_true, hw,
      ih w (i + 1) _ he hw, Nat.add_right_comm, List.append_assoc, runFailures_succ]
    rfl

/-! ### the top of the pipeline: `ReplayParser.get_info` (model: `ReplayModel/Pipeline.lean`) -/

/-- **The top-level call returns a result object in lenient mode** whenever the container
itself can be read — whatever the version field, the bundle and the stream contain. -/
theorem getInfo_lenient_returns (env : Env) (ext : String) (file : Bytes) (info : ReplayInfo)
    (h : readContainer env.D env.inflate ext file = .ok info) :
    ∃ hidden error, getInfo env false ext file = .returns info hidden error := by
  unfold getInfo
  simp only [h, Bool.false_eq_true, if_false]
  split
  · exact ⟨_, _, rfl⟩
  · split
    · exact ⟨_, _, rfl⟩
    · split <;> exact ⟨_, _, rfl⟩

/-- a strict play that ends `finished` is the lenient play -/
theorem play_strict_finished (w : World) (stream : Bytes)
    (h : (play jsonOk cfg true w stream).ending = .finished) :
    play jsonOk cfg false w stream = play jsonOk cfg true w stream := by
  simp only [play] at h ⊢
  rcases strict_prefix jsonOk cfg (parsePackets stream).1 w 0 [] with ⟨hnf, _⟩ | ⟨pre, np, post, e, _, _, _, hp⟩
  · rw [(modes_agree jsonOk cfg _ w 0 [] hnf).1]
  · simp only [hp, endingOf] at h
    cases h

/-- **Both modes agree at the top level**: whatever strict mode returns, lenient mode returns
the same object (strict mode only ever *adds* exceptions). -/
theorem getInfo_strict_returns_lenient (env : Env) (ext : String) (file : Bytes) (info : ReplayInfo)
    (hidden : Option PlayResult) (error : Option String)
    (h : getInfo env true ext file = .returns info hidden error) :
    getInfo env false ext file = .returns info hidden error := by
  unfold getInfo at h ⊢
  cases hr : readContainer env.D env.inflate ext file with
  | error e => simp [hr] at h
  | ok inf =>
    simp only [hr, if_true] at h ⊢
    cases hv : env.versionOf inf.game inf.engine with
    | none => simp [hv] at h
    | some vs =>
      simp only [hv] at h ⊢
      cases hs : selectVersion env.bundled inf.game vs with
      | error r => simp [hs] at h
      | ok sel =>
        simp only [hs] at h ⊢
        cases he : (play env.jsonOk (configOf env inf.game sel) true {} inf.stream).ending with
        | finished =>
          rw [play_strict_finished env.jsonOk _ {} inf.stream he, he]
          rw [he] at h
          exact h
        | headerShort => rw [he] at h; cases h
        | raised i e => rw [he] at h; cases h


end ReplayModel.C12
