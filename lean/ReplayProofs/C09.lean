/-
C09 — the battle summary is a faithful function of the recorded events.
-/
import ReplayModel.Controller
import ReplayModel.Extract
import ReplayProofs.Lemmas.Basic
namespace ReplayModel.C09
open ReplayModel

theorem iget_isetD_same {α : Type} (d : List (Int × α)) (k : Int) (f : Option α → α) :
    iget? (isetD d k f) k = some (f (iget? d k)) :=
  lookup_upsert_same d k f

theorem iget_isetD_other {α : Type} (d : List (Int × α)) (k k' : Int) (f : Option α → α) (hne : k' ≠ k) :
    iget? (isetD d k f) k' = iget? d k' :=
  lookup_upsert_other d k k' f hne

/-- value of a counter, 0 when the key was never counted -/
def cnt (d : List (Int × Int)) (k : Int) : Int := (iget? d k).getD 0

def cnt2 (m : List (Int × List (Int × Int))) (a b : Int) : Int := cnt ((iget? m a).getD []) b

theorem cnt_bump (d : List (Int × Int)) (k k' n : Int) :
    cnt (bump d k n) k' = cnt d k' + (if k' = k then n else 0) := by
  unfold cnt bump
  by_cases h : k' = k
  · subst h; rw [iget_isetD_same]; simp
  · rw [iget_isetD_other _ _ _ _ h]; simp [h]

theorem cnt2_bump2 (m : List (Int × List (Int × Int))) (a b a' b' n : Int) :
    cnt2 (bump2 m a b n) a' b' = cnt2 m a' b' + (if a' = a ∧ b' = b then n else 0) := by
  unfold cnt2 bump2
  by_cases h : a' = a
  · subst h
    rw [iget_isetD_same]
    simp only [Option.getD_some, cnt_bump]
    by_cases hb : b' = b <;> simp [hb]
  · rw [iget_isetD_other _ _ _ _ h]; simp [h]

-- `c` tallies a list of events, not one event: `achCount`, `shotSum`, `planeSum` are given by recursion on the list
theorem foldl_tally {σ ε β γ : Type} (step : σ → ε → σ) (F : σ → β) (op : β → γ → β) (c : List ε → γ)
    (hnil : ∀ b, op b (c []) = b)
    (hcons : ∀ s e es, op (F (step s e)) (c es) = op (F s) (c (e :: es))) (es : List ε) (s : σ) :
    F (es.foldl step s) = op (F s) (c es) := by
  induction es generalizing s with
  | nil => exact (hnil _).symm
  | cons e es ih => rw [List.foldl_cons, ih, hcons]

def deathOf : Event → Option (Int × Int × Int)
  | .death v k t => some (v, k, t)
  | _ => none

theorem deaths_fold (es : List Event) (s : Summary) :
    (es.foldl Summary.apply s).deaths = s.deaths ++ es.filterMap deathOf := by
  refine foldl_tally Summary.apply Summary.deaths (· ++ ·) (List.filterMap deathOf) (fun _ => List.append_nil _) ?_ es s
  intro s e es
  cases e
  case death v k t => exact List.append_assoc ..
  all_goals rfl

/-- **The death list is the ordered sub-sequence of death events.** -/
theorem deaths_ordered (es : List Event) : (summarize es).deaths = es.filterMap deathOf := by
  unfold summarize; rw [deaths_fold]; rfl

/-- how many times (avatar, achievement) was earned in a trace -/
def achCount (a i : Int) : List Event → Int
  | [] => 0
  | .achievement a' i' :: es => (if a = a' ∧ i = i' then 1 else 0) + achCount a i es
  | _ :: es => achCount a i es

theorem ach_fold (a i : Int) (es : List Event) (s : Summary) :
    cnt2 (es.foldl Summary.apply s).achievements a i = cnt2 s.achievements a i + achCount a i es := by
  refine foldl_tally Summary.apply (cnt2 ·.achievements a i) (· + ·) (achCount a i) (fun _ => Int.add_zero _) ?_ es s
  intro s e es
  cases e
  case achievement a' i' =>
    simp only [Summary.apply, achCount, cnt2_bump2]
    omega
  all_goals rfl

/-- **Achievements are counted each time they occur** (never overwritten). -/
theorem achievements_count (es : List Event) (a i : Int) :
    cnt2 (summarize es).achievements a i = achCount a i es := by
  unfold summarize; rw [ach_fold]; simp [cnt2, cnt, iget?]

/-- total damage dealt to `v` by `att` in a trace -/
def shotSum (v att : Int) : List Event → Int
  | [] => 0
  | .shot v' a' n :: es => (if v = v' ∧ att = a' then n else 0) + shotSum v att es
  | _ :: es => shotSum v att es

theorem shot_fold (v att : Int) (es : List Event) (s : Summary) :
    cnt2 (es.foldl Summary.apply s).shots v att = cnt2 s.shots v att + shotSum v att es := by
  refine foldl_tally Summary.apply (cnt2 ·.shots v att) (· + ·) (shotSum v att) (fun _ => Int.add_zero _) ?_ es s
  intro s e es
  cases e
  case shot v' a' n =>
    simp only [Summary.apply, shotSum, cnt2_bump2]
    omega
  all_goals rfl

/-- **Per-victim / per-attacker damage totals are sums over all matching events.** -/
theorem shots_damage_sum (es : List Event) (v att : Int) :
    cnt2 (summarize es).shots v att = shotSum v att es := by
  unfold summarize; rw [shot_fold]; simp [cnt2, cnt, iget?]

def planeSum (att : Int) : List Event → Int
  | [] => 0
  | .planeDeath a' n :: es => (if att = a' then (n : Int) else 0) + planeSum att es
  | _ :: es => planeSum att es

theorem plane_fold (att : Int) (es : List Event) (s : Summary) :
    cnt (es.foldl Summary.apply s).planes att = cnt s.planes att + planeSum att es := by
  refine foldl_tally Summary.apply (cnt ·.planes att) (· + ·) (planeSum att) (fun _ => Int.add_zero _) ?_ es s
  intro s e es
  cases e
  case planeDeath a' n =>
    simp only [Summary.apply, planeSum, cnt_bump]
    omega
  all_goals rfl

/-- **Destroyed planes are counted per attacker over all events.** -/
theorem planes_count (es : List Event) (att : Int) :
    cnt (summarize es).planes att = planeSum att es := by
  unfold summarize; rw [plane_fold]; simp [cnt, iget?]

theorem summarize_append (es : List Event) (e : Event) :
    summarize (es ++ [e]) = (summarize es).apply e := by
  simp [summarize, List.foldl_append]

theorem mergeRow_last (old : List (String × String)) (row : List (String × String)) (k v : String) :
    (mergeRow old (row ++ [(k, v)])).find? (·.1 == k) = some (k, v) := by
  unfold mergeRow
  rw [List.foldl_append]
  generalize row.foldl _ old = acc
  -- the last step is `acc[k] = v`
  obtain ⟨p, hp, hv⟩ := Option.map_eq_some_iff.mp (lookup_upsert_same acc k fun _ => v)
  have hk := List.find?_some hp
  exact hp.trans (congrArg some (Prod.ext (eq_of_beq hk) hv))

/-- a roster message for player `p` only touches player `p` -/
theorem roster_frame (s : Summary) (p q : Int) (row : List (String × String)) (h : q ≠ p) :
    iget? (s.apply (.roster p row)).players q = iget? s.players q := by
  simp only [Summary.apply]
  exact iget_isetD_other _ _ _ _ h

/-- … and merges into whatever was known about `p` before (right-biased) -/
theorem roster_merge (s : Summary) (p : Int) (row : List (String × String)) :
    iget? (s.apply (.roster p row)).players p = some (mergeRow ((iget? s.players p).getD []) row) := by
  simp only [Summary.apply]
  exact iget_isetD_same _ _ _

/-! ### nothing leaks from one kind of event into another field -/

theorem field_frame_death (s : Summary) (v k t : Int) :
    let s' := s.apply (.death v k t)
    s'.achievements = s.achievements ∧ s'.ribbons = s.ribbons ∧ s'.shots = s.shots ∧ s'.damage = s.damage ∧
    s'.planes = s.planes ∧ s'.players = s.players ∧ s'.battleResult = s.battleResult ∧ s'.map = s.map ∧
    s'.arenaId = s.arenaId ∧ s'.playerId = s.playerId := by
  simp [Summary.apply]

theorem field_frame_shot (s : Summary) (v a n : Int) :
    let s' := s.apply (.shot v a n)
    s'.deaths = s.deaths ∧ s'.achievements = s.achievements ∧ s'.ribbons = s.ribbons ∧ s'.damage = s.damage ∧
    s'.planes = s.planes ∧ s'.players = s.players ∧ s'.battleResult = s.battleResult ∧ s'.map = s.map := by
  simp [Summary.apply]

theorem field_frame_achievement (s : Summary) (a i : Int) :
    let s' := s.apply (.achievement a i)
    s'.deaths = s.deaths ∧ s'.shots = s.shots ∧ s'.ribbons = s.ribbons ∧ s'.damage = s.damage ∧
    s'.planes = s.planes ∧ s'.players = s.players ∧ s'.battleResult = s.battleResult ∧ s'.map = s.map := by
  simp [Summary.apply]

/-- **The map is the arena name minus the literal prefix `spaces/`** -/
theorem map_prefix (rest : Bytes) : stripSpaces (spacesPrefix ++ rest) = rest := by
  unfold stripSpaces
  have : spacesPrefix.isPrefixOf (spacesPrefix ++ rest) = true := by
    rw [List.isPrefixOf_iff_prefix]; exact List.prefix_append _ _
  simp [this]

/-- a name without the prefix is reported as it is — in particular nothing is stripped from
names that merely start with letters of the word (the repaired `lstrip` defect) -/
theorem map_no_prefix (name : Bytes) (h : spacesPrefix.isPrefixOf name = false) : stripSpaces name = name := by
  unfold stripSpaces; simp [h]

example : stripSpaces "spaces/s07_Advance".toUTF8.toList = "s07_Advance".toUTF8.toList := by decide +kernel
example : stripSpaces "spaces/spaces/x".toUTF8.toList = "spaces/x".toUTF8.toList := by decide +kernel

/-- the battle result is the last battle-end event -/
theorem battle_result_last (es : List Event) (t r : Int) :
    (summarize (es ++ [.battleEnd t r])).battleResult = some (t, r) := by
  rw [summarize_append]; rfl

/-- Non-vacuity: two deaths and a repeated achievement. -/
example : (summarize [.death 1 2 3, .achievement 7 9, .death 4 5 6, .achievement 7 9]).deaths = [(1, 2, 3), (4, 5, 6)] ∧
    cnt2 (summarize [.death 1 2 3, .achievement 7 9, .death 4 5 6, .achievement 7 9]).achievements 7 9 = 2 := by
  decide +kernel

/-- a log entry that is a well-formed `receiveVehicleDeath` call -/
def deathCall (e : LogEntry) : Option (Int × Int × Int) := (eventOfEntry e).bind deathOf

theorem eventsOfWorld_no_death (w : World) : (eventsOfWorld w).filterMap deathOf = [] := by
  unfold eventsOfWorld
  cases w.playerId <;> cases w.map <;> rfl

/-- **Deaths in the summary are the death calls of the stream, in stream order** — from the
bytes: every `Avatar.receiveVehicleDeath` call the played stream decodes to (victim, killer,
type as decoded by the version's own definitions) appears once, in call order, and nothing
else does. -/
theorem deaths_of_stream (jsonOk : Bytes → Bool) (defs : Defs) (masks : Masks) (dialect : Dialect) (strict : Bool) (stream : Bytes) :
    (summaryOfStream jsonOk defs masks dialect strict stream).deaths =
      (play jsonOk { defs := defs, masks := masks, dialect := dialect, reg := summaryRegistry } strict {} stream).world.log.filterMap deathCall := by
  unfold summaryOfStream
  simp only [deaths_ordered, List.filterMap_append, eventsOfWorld_no_death, List.append_nil, eventsOfLog,
    List.filterMap_filterMap]
  rfl

/-- events produced by callbacks: they never touch the player id / map fields -/
def isCallEvent : Event → Bool
  | .death .. | .achievement .. | .battleEnd .. | .arena .. => true
  | _ => false

theorem eventOfCall_isCall (key : String) (args : List Val) (ev : Event) (h : eventOfCall key args = some ev) :
    isCallEvent ev = true := by
  unfold eventOfCall at h
  repeat' split at h
  all_goals cases h
  all_goals rfl

theorem eventOfEntry_isCall (e : LogEntry) (ev : Event) (h : eventOfEntry e = some ev) : isCallEvent ev = true := by
  cases e with
  | method key sub eid args kwargs => exact eventOfCall_isCall key _ ev h
  | prop => cases h
  | nested => cases h

theorem apply_call_keeps_ids {e : Event} (h : isCallEvent e = true) (s : Summary) :
    (s.apply e).playerId = s.playerId ∧ (s.apply e).map = s.map := by
  cases e
  case death | achievement | battleEnd | arena => exact ⟨rfl, rfl⟩
  all_goals cases h

theorem calls_keep_ids (es : List Event) (h : ∀ e ∈ es, isCallEvent e = true) : ∀ s : Summary,
    (es.foldl Summary.apply s).playerId = s.playerId ∧ (es.foldl Summary.apply s).map = s.map := by
  induction es with
  | nil => exact fun s => ⟨rfl, rfl⟩
  | cons e es ih =>
    intro s
    rw [List.forall_mem_cons] at h
    rw [List.foldl_cons, (ih h.2 _).1, (ih h.2 _).2]
    exact apply_call_keeps_ids h.1 s

/-- the recording player's id and the map in the summary are those the player recorded from
the base-player and map packets (last one wins, `C05.player_id_base`), the map without its
`spaces/` prefix -/
theorem player_of_stream (jsonOk : Bytes → Bool) (defs : Defs) (masks : Masks) (dialect : Dialect) (strict : Bool) (stream : Bytes) :
    let w := (play jsonOk { defs := defs, masks := masks, dialect := dialect, reg := summaryRegistry } strict {} stream).world
    (summaryOfStream jsonOk defs masks dialect strict stream).playerId = w.playerId ∧
    (summaryOfStream jsonOk defs masks dialect strict stream).map = w.map.map stripSpaces := by
  intro w
  unfold summaryOfStream summarize
  rw [List.foldl_append]
  have hcalls : ∀ e ∈ eventsOfLog w.log, isCallEvent e = true := by
    intro e he
    obtain ⟨x, _, hx⟩ := List.mem_filterMap.mp he
    exact eventOfEntry_isCall x e hx
  obtain ⟨h1, h3⟩ := calls_keep_ids _ hcalls {}
  generalize (eventsOfLog w.log).foldl Summary.apply {} = s0 at h1 h3
  show ((eventsOfWorld w).foldl Summary.apply s0).playerId = _ ∧ _
  unfold eventsOfWorld
  cases w.playerId <;> cases w.map <;>
    simp_all [Summary.apply]

end ReplayModel.C09
