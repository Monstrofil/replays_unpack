/-
C07 — subscribers are called exactly once per matching event with the right arguments.
-/
import ReplayModel.World
import ReplayModel.Play
import ReplayProofs.C05
namespace ReplayModel.C07
open ReplayModel

/-! ### registration: every callback registered for a key is kept -/

/-- in both cases `subscribe` is the assignment `table[key] = table.get(key, []) + [s]` -/
theorem subscribe_eq (t : List (String × List Sub)) (k : String) (s : Sub) :
    subscribe t k s = dictSet t k ((dictGet? t k).getD [] ++ [s]) := by
  unfold subscribe
  cases h : dictGet? t k with
  | some l => rfl
  | none =>
    have hn : t.any (·.1 == k) = false :=
      List.any_eq_false.mpr (List.find?_eq_none.mp (Option.map_eq_none_iff.mp h))
    unfold dictSet
    rw [hn]
    rfl

/-- registering appends to the key's list: earlier callbacks of the key stay, in order -/
theorem subscribe_appends (t : List (String × List Sub)) (k : String) (s : Sub) :
    dictGet? (subscribe t k s) k = some ((dictGet? t k).getD [] ++ [s]) := by
  rw [subscribe_eq]
  exact dictGet_dictSet_same t k _

/-- … and does not touch any other key -/
theorem subscribe_other (t : List (String × List Sub)) (k k' : String) (s : Sub) (hne : k' ≠ k) :
    dictGet? (subscribe t k s) k' = dictGet? t k' := by
  rw [subscribe_eq]
  exact dictGet_dictSet_other t k k' _ hne

/-- n registrations for one key give a list of n callbacks, in registration order -/
theorem subscribe_many (t : List (String × List Sub)) (k : String) (ss : List Sub) :
    dictGet? (ss.foldl (fun t s => subscribe t k s) t) k =
      if ss = [] then dictGet? t k else some ((dictGet? t k).getD [] ++ ss) := by
  induction ss generalizing t with
  | nil => simp
  | cons s ss ih =>
    simp only [List.foldl_cons, reduceCtorEq, if_false]
    rw [ih, subscribe_appends]
    split
    · rename_i h; subst h; simp
    · simp

/-! ### fan-out: every subscriber exactly once, in registration order -/

theorem runSubs_all (subs : List Sub) (mk : Nat → LogEntry) (h : ∀ s ∈ subs, s.raises = false) :
    runSubs subs mk = (subs.map (fun s => mk s.tag), false) := by
  induction subs with
  | nil => rfl
  | cons s rest ih =>
    unfold runSubs
    simp only [h s (List.mem_cons_self ..), Bool.false_eq_true, if_false]
    rw [ih (fun x hx => h x (List.mem_cons_of_mem _ hx))]
    rfl

theorem runSubs_count (subs : List Sub) (mk : Nat → LogEntry) (h : ∀ s ∈ subs, s.raises = false) :
    (runSubs subs mk).1.length = subs.length := by
  rw [runSubs_all subs mk h]; simp

/-- positional / keyword split of decoded arguments -/
def positional (args : List (Option String × Ty)) (vals : List Val) : List Val :=
  (args.zip vals).filterMap fun ((n, _), v) => if n.isNone then some v else none

def keywords (args : List (Option String × Ty)) (vals : List Val) : List (String × Val) :=
  ((args.zip vals).filterMap fun ((n, _), v) => n.map (fun s => (s, v))).foldl
    (fun acc kv => dictSet acc kv.1 kv.2) []

/-- **No subscriber: no effect, nothing decoded** — for every payload byte string, so an
undecodable payload there cannot fail the parse. -/
theorem unsubscribed_noop (reg : Registry) (e : Entity) (idx : Nat) (m : MethodDef) (data : Bytes)
    (hm : e.view.methods[idx]? = some m)
    (hs : (dictGet? reg.methods (e.view.name ++ "_" ++ m.name)).getD [] = []) :
    methodCall reg e idx data = ([], none) := by
  unfold methodCall
  simp only [hm, hs]

theorem unsubscribed_step_noop (cfg : Config) (w : World) (id : Int) (idx : Nat) (data : Bytes) (e : Entity)
    (m : MethodDef) (he : w.get? id = some e) (hm : e.view.methods[idx]? = some m)
    (hs : (dictGet? cfg.reg.methods (e.view.name ++ "_" ++ m.name)).getD [] = []) :
    stepEntityMethod cfg w id idx data = ⟨w, none⟩ := by
  unfold stepEntityMethod
  simp only [he, unsubscribed_noop cfg.reg e idx m data hm hs, List.append_nil]

/-- **Dispatch**: a call to a subscribed method whose payload decodes invokes every
subscriber of the key exactly once, in registration order, with that entity, the unnamed
arguments positionally and the named ones by keyword. -/
theorem dispatch_method (reg : Registry) (e : Entity) (idx : Nat) (m : MethodDef) (data rest : Bytes)
    (subs : List Sub) (vals : List Val) (hm : e.view.methods[idx]? = some m)
    (hs : dictGet? reg.methods (e.view.name ++ "_" ++ m.name) = some subs) (hne : subs ≠ [])
    (hr : ∀ s ∈ subs, s.raises = false)
    (hd : decodeArgs m.header (m.args.map (·.2)) data = .ok (vals, rest)) :
    methodCall reg e idx data =
      (subs.map (fun s => LogEntry.method (e.view.name ++ "_" ++ m.name) s.tag e.id
        (positional m.args vals) (keywords m.args vals)), none) := by
  unfold methodCall
  simp only [hm, hs, Option.getD_some]
  cases subs with
  | nil => exact absurd rfl hne
  | cons s ss =>
    simp only [hd]
    rw [runSubs_all (s :: ss) _ hr]
    rfl

/-- an undecodable payload on a subscribed method fails before any callback runs -/
theorem undecodable_call_clean (reg : Registry) (e : Entity) (idx : Nat) (m : MethodDef) (data : Bytes)
    (s : Sub) (ss : List Sub) (er : Err) (hm : e.view.methods[idx]? = some m)
    (hs : dictGet? reg.methods (e.view.name ++ "_" ++ m.name) = some (s :: ss))
    (hd : decodeArgs m.header (m.args.map (·.2)) data = .error er) :
    methodCall reg e idx data = ([], some er) := by
  unfold methodCall
  simp only [hm, hs, Option.getD_some, hd]

/-- property subscribers receive (entity, new value), once each, after the value is stored -/
theorem dispatch_property (reg : Registry) (e : Entity) (idx : Nat) (p : PropDef) (data rest : Bytes)
    (v : Val) (subs : List Sub) (hp : e.view.clientProps[idx]? = some p)
    (hd : decode 1 p.ty data = .ok (v, rest))
    (hs : (dictGet? reg.props (e.view.name ++ "_" ++ p.name)).getD [] = subs)
    (hr : ∀ s ∈ subs, s.raises = false) :
    setClientProperty reg e idx data =
      ({ e with client := dictSet e.client p.name v }, rest,
       subs.map (fun s => LogEntry.prop (e.view.name ++ "_" ++ p.name) s.tag e.id v), none) := by
  unfold setClientProperty
  simp only [hp, hd, hs]
  rw [runSubs_all subs _ hr]
  rfl

theorem put_log (w : World) (e : Entity) : (w.put e).log = w.log := rfl
/-- a step only ever appends to the invocation log: entries appear in stream order -/
theorem step_log_append (cfg : Config) (w : World) (p : Packet) :
    ∃ l, (step cfg w p).world.log = w.log ++ l :=
  (C05.step_changes cfg w p).log

/-- Non-vacuity: three registrations for one key, all delivered. -/
example : dictGet? ([⟨0, false⟩, ⟨1, false⟩, ⟨2, false⟩].foldl (fun t s => subscribe t "A_m" s) []) "A_m"
    = some [⟨0, false⟩, ⟨1, false⟩, ⟨2, false⟩] := by
  rw [subscribe_many]; rfl

/-- the keys of the nested table that match a full path hash (`key in hash`: substring), in table order -/
def nestedHits (reg : Registry) (full : String) : List (String × List Sub) :=
  reg.nested.filter (fun kv => (full.splitOn kv.1).length > 1)

/-- fan-out over several keys: with callbacks that do not raise, every subscriber of every
matching key is invoked exactly once, keys in table order, subscribers in registration order -/
theorem nested_runAll_all (e : Entity) (obj : Val) (path : String) (hs : List (String × List Sub))
    (h : ∀ kv ∈ hs, ∀ s ∈ kv.2, s.raises = false) :
    applyNested.runAll e obj path hs =
      (hs.flatMap (fun kv => kv.2.map (fun s => LogEntry.nested kv.1 s.tag e.id path obj)), false) := by
  induction hs with
  | nil => rfl
  | cons kv rest ih =>
    obtain ⟨k, subs⟩ := kv
    unfold applyNested.runAll
    rw [runSubs_all subs _ (h (k, subs) (List.mem_cons_self ..))]
    simp only [Bool.false_eq_true, if_false]
    rw [ih (fun x hx => h x (List.mem_cons_of_mem _ hx))]
    simp [List.flatMap_cons]

/-- **Nested-change subscribers are called exactly once per matching key.** Whenever a nested
update succeeds, the log of the call is the fan-out over the keys matching a dotted path, with
that path and a container as arguments (`applyNested_ok` says which: the path of the update
and `out.notify`), or empty: when the update hands nothing over (element cleared, pure slice
delete) nobody is called. -/
theorem dispatch_nested (reg : Registry) (e e' : Entity) (sl : Bool) (payload : Bytes) (l : List LogEntry) (raised : Bool)
    (h : applyNested reg e sl payload = .ok (e', l, raised))
    (hnr : ∀ kv ∈ reg.nested, ∀ s ∈ kv.2, s.raises = false) :
    raised = false ∧
    (l = [] ∨ ∃ path obj, l = (nestedHits reg (e.view.name ++ "_" ++ path)).flatMap
        (fun kv => kv.2.map (fun s => LogEntry.nested kv.1 s.tag e.id path obj))) := by
  obtain ⟨name, out, _, hl⟩ := applyNested_ok h
  cases hn : out.notify with
  | none =>
    rw [hn] at hl
    cases hl
    exact ⟨rfl, .inl rfl⟩
  | some obj =>
    rw [hn] at hl
    dsimp only at hl
    rw [nested_runAll_all _ _ _ _ fun kv hkv => hnr kv (List.mem_filter.mp hkv).1] at hl
    cases hl
    exact ⟨rfl, .inr ⟨_, _, rfl⟩⟩

end ReplayModel.C07
