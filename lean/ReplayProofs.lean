import ReplayProofs.Lemmas.Basic
import ReplayProofs.Lemmas.Bytes
import ReplayProofs.Lemmas.Bits
import ReplayProofs.Lemmas.Codec
import ReplayProofs.Lemmas.World
import ReplayProofs.Lemmas.Step
import ReplayProofs.Lemmas.Play
import ReplayProofs.C01
import ReplayProofs.C02
import ReplayProofs.C03
import ReplayProofs.C04
import ReplayProofs.C05
import ReplayProofs.C06
import ReplayProofs.C07
import ReplayProofs.C08
import ReplayProofs.C09
import ReplayProofs.C10
import ReplayProofs.C11
import ReplayProofs.C12
import ReplayProofs.C13
import ReplayProofs.C14
import ReplayProofs.C15
import ReplayProofs.C16
import ReplayProofs.C17
import ReplayProofs.C18
import ReplayProofs.C19
